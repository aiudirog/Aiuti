import AiutiVerif.Cache.Props
open AiutiVerif.Cache.LTS

def c0 : CId := ⟨0⟩
def c1 : CId := ⟨1⟩
def k0 : KId := ⟨0⟩
def l0 : LId := ⟨0⟩
def l1 : LId := ⟨1⟩

def tr : List Label :=
  [.loopStart l0, .loopStart l1,
   .call c0 k0 l0, .step c0, .step c0, .step c0, .step c0, .step c0, .step c0, .step c0,  -- probe1 lockAcq probe2 chk put relOwn invoke -> awaiting
   .loopStop l0,
   .call c1 k0 l1, .step c1, .step c1, .step c1, .step c1, .step c1, .step c1, .step c1, .step c1, -- ... chk chkLoop put relOwn invoke -> awaiting
   .loopResume l0]

def pcs (s : State) := ((s.cs c0).pc, (s.cs c0).orphan, (s.loops l0), (s.cs c1).pc, (s.cs c1).orphan, (s.loops l1), (s.cs c0).key.n, (s.cs c1).key.n)
#eval (accepts init tr).map pcs
-- the orphan's invocation can end successfully after the resume
#eval (accepts init (tr ++ [.iend c0 (.ok ⟨5⟩), .step c0])).map fun s => (pcs s, (s.cache k0).map (·.n))
#eval firstReject init tr 0

-- two callers awaiting the same key, both on loops that are running, in a reachable state:
example : ∃ s, accepts init tr = some s ∧ (s.cs c0).pc = .awaiting ∧ (s.cs c1).pc = .awaiting ∧
    (s.cs c0).key = (s.cs c1).key ∧ (s.loops (s.cs c0).loop).isRunning = true ∧ (s.loops (s.cs c1).loop).isRunning = true
    ∧ c0 ≠ c1 := by
  refine ⟨_, rfl, ?_⟩
  decide
-- an orphan's iend need not be `cancelled`:
example : ∃ s, accepts init tr = some s ∧ (s.cs c0).orphan = true ∧ (step s (.iend c0 (.ok ⟨5⟩))).isSome = true := by
  refine ⟨_, rfl, ?_⟩
  decide
