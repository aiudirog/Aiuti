import AiutiVerif.Decorators.Props
import AiutiVerif.Split.Props
import AiutiVerif.Parse.Props
import AiutiVerif.Gather.Props
open AiutiVerif

-- C15_per_loop_independent / C15_step_frame hold for ANY machine and step function: nothing of the batcher is used
section
variable {S I : Type} (f : S → I → S)
def regStep' (s0 : S) (r : Nat → Option S) (li : Nat × I) : Nat → Option S :=
  fun l => if l = li.1 then some (f ((r li.1).getD s0) li.2) else r l
def alone' (s0 : S) (o : Option S) (is : List I) : Option S :=
  is.foldl (fun o i => some (f (o.getD s0) i)) o
theorem per_loop_any (s0 : S) (ins : List (Nat × I)) (l : Nat) :
    ∀ r, (ins.foldl (regStep' f s0) r) l = alone' f s0 (r l) ((ins.filter (·.1 == l)).map (·.2)) := by
  induction ins with
  | nil => intro r; rfl
  | cons li rest ih =>
    intro r
    rw [List.foldl_cons, ih]
    by_cases h : li.1 = l
    · simp [regStep', alone', h]
    · simp [regStep', h, Ne.symm h]
end
-- the fixed definitions are the instances at applyIn
example : @Decorators.regStep = regStep' Batcher.applyIn := rfl
example : @Decorators.alone = alone' Batcher.applyIn := rfl
-- C15_step_frame is the else-branch of regStep
example (s0 : Batcher.St) (r : Decorators.Registry) (l l' : Nat) (i : Batcher.In) (h : l' ≠ l) :
    Decorators.regStep s0 r (l, i) l' = r l' := if_neg h

-- C18_exhaust: `exhaust` is List.length under another name
example {α} : @Split.exhaust α = List.length := by
  funext l; induction l with
  | nil => rfl
  | cons _ r ih => simp [Split.exhaust, ih]

-- C19: the three small theorems are unfoldings of the specification's own helper functions
example (cfg : Parse.Cfg) (id cls : Nat) (h : Bool) : Parse.lit cfg (.obj id cls h) = .obj id cls h := rfl
example (cfg : Parse.Cfg) (id cls : Nat) (h : Bool) : (Parse.tryParse cfg (.obj id cls h)).2 = [] := rfl
example (cfg : Parse.Cfg) (s : Parse.Str) : Parse.lit cfg (.str s) = (cfg.parse s).getD (.str s) := rfl
example (cfg : Parse.Cfg) (p : Parse.Val × Parse.Val) :
    (Parse.specPair cfg p).1 = if cfg.parseKeys then Parse.lit cfg p.1 else p.1 := rfl

-- C20_runs_all: holds for every comparison function and every list, nothing about failures
example (le : Nat → Nat → Bool) (l : List Nat) : (Gather.sortBy le l).Perm l := Gather.sortBy_perm le l
-- `order` does not read `exc`:
example (aws aws' : List Gather.Aw) (h : aws.map (·.delay) = aws'.map (·.delay)) :
    Gather.order aws = Gather.order aws' := by
  have hl : aws.length = aws'.length := by simpa using congrArg List.length h
  have hb : Gather.before aws = Gather.before aws' := by
    funext i j
    have : ∀ k : Nat, aws[k]?.map Gather.Aw.delay = aws'[k]?.map Gather.Aw.delay := fun k => by
      have := congrArg (fun l : List Nat => l[k]?) h; simpa using this
    simp [Gather.before, this]
  simp [Gather.order, hb, hl]
