import AiutiVerif
import Lean
open Lean Meta Elab Command

#eval show CommandElabM Unit from do
  let env ← getEnv
  let mut tbl : Std.HashMap Expr (List Name) := {}
  let mut cnt : Nat := 0
  for (n, ci) in env.constants.toList do
    if !(`AiutiVerif).isPrefixOf n then continue
    if n.isInternal then continue
    match ci with
    | .thmInfo v =>
      let s := n.toString
      if (s.splitOn ".eq_").length > 1 || (s.splitOn "match_").length > 1 || (s.splitOn "sizeOf_spec").length > 1 || (s.splitOn ".inj").length > 1 || (s.splitOn "noConfusion").length > 1 || (s.splitOn "congr_simp").length > 1 then continue
      cnt := cnt + 1
      tbl := tbl.insert v.type (n :: (tbl.getD v.type []))
    | _ => pure ()
  logInfo m!"theorems: {cnt}, distinct: {tbl.size}"
  for (_, ns) in tbl.toList do
    if ns.length > 1 then
      logInfo m!"DUP: {ns}"
