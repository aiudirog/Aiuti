import AiutiVerif.Batcher.Props
/-! `C04_waiters_are_in_flight` (after the drain) with a non-empty `waiting`: `max_concurrent_batches = 0`, so the batch waits
for a slot for ever; and a batch whose script is longer than the horizon allows is not needed. -/
namespace AiutiVerif.Batcher
def noSlot : St := { maxb := 2, maxc := 0, bt := 10, ret := 0, plan := demoPlanK }
example : Fresh3 noSlot := by simp [Fresh3, Fresh2, Fresh, noSlot]
example : (runProgram noSlot [.call 0 0 0 7, .call 1 1 0 7, .call 2 2 0 8, .call 3 3 0 9]).waiting = [(0, 0), (1, 0), (2, 1), (3, 2)] ∧
    (runProgram noSlot [.call 0 0 0 7, .call 1 1 0 7, .call 2 2 0 8, .call 3 3 0 9]).semWait.length = 2 := by decide +kernel
end AiutiVerif.Batcher
