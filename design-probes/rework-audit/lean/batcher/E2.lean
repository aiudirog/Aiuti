import AiutiVerif.Batcher.Props
namespace AiutiVerif.Batcher
def richPlan : Plan := { per := [[0], [1], [2], [3], [4], [5], [0, 1]], order := 1, raiseAt := [99, 99, 1], idelay := 3, tail := 1 }
def richSt : St := { maxb := 3, maxc := 1, bt := 10, ret := 20, plan := richPlan }
def otIns : List In := [.call 0 0 0 0, .call 0 1 1 1, .call 0 2 2 2, .call 12 3 3 3]
#eval (List.range 16).map fun t => let s := arrive (otIns.foldl applyIn richSt) t; (t, s.running.map (·.next), s.asm.map (·.deadline), s.evict, s.queue.length, s.qtime, advanceDone fuelDefault t true (otIns.foldl applyIn richSt))
def ot2 : List In := [.call 0 0 0 0, .call 0 1 1 1, .call 0 2 2 2, .call 1 3 3 3, .call 4 4 4 4]
#eval (List.range 12).map fun t => let s := arrive (ot2.foldl applyIn richSt) t; (t, s.running.map (·.next), s.asm.map (·.deadline), s.evict, s.queue.length, s.qtime, advanceDone fuelDefault t true (ot2.foldl applyIn richSt))
end AiutiVerif.Batcher
