import AiutiVerif.Batcher.Props
namespace AiutiVerif.Batcher
#eval (runProgram cancelSt cancelInsA).outs
#eval (runProgram cancelSt cancelInsB).outs
#eval (runProgram cancelSt cancelInsA).tie
#eval (runProgram demoSt demoIns).outs
#eval (runProgram windowSt windowIns).outs
#eval (runProgram { maxb := 3, maxc := 1, bt := 10, ret := 100, plan := demoPlanK }
    [.call 0 0 0 7, .call 1 1 0 7, .call 50 2 0 7, .call 500 3 0 7]).outs
end AiutiVerif.Batcher
