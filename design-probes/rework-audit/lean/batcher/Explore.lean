import AiutiVerif.Batcher.Props
import AiutiVerif.Decorators.Props
namespace AiutiVerif.Batcher

/-- a plan with all six per-key behaviours (key k has kind k), reverse order, raise at position 1 in batch 2 -/
def richPlan : Plan := { per := [[0], [1], [2], [3], [4], [5], [0, 1]], order := 1, raiseAt := [99, 99, 1], idelay := 3, tail := 1 }
def richSt : St := { maxb := 3, maxc := 1, bt := 10, ret := 20, plan := richPlan }
def richIns : List In :=
  [.call 0 0 10 0, .call 1 1 11 1, .call 2 2 12 2,      -- batch 0 (full): keys 0,1,2: value / exception value / omitted
   .call 3 3 13 3, .call 4 4 14 0, .call 5 5 15 6,      -- key 3 yielded twice; key 0 shared (pending -> waits); key 6
   .setMax 6 2, .call 7 6 16 4, .call 8 7 17 5,         -- mutation, unknown key, StopIteration
   .cancel 9 4, .call 60 8 18 0, .call 61 9 19 1, .call 200 10 20 0]

#eval (runProgram richSt richIns).outs
#eval (runProgram richSt richIns).batchLog
#eval programDone richSt richIns
#eval ((runProgram richSt richIns).queue, (runProgram richSt richIns).asm.isSome, (runProgram richSt richIns).semWait, (runProgram richSt richIns).running.length, (runProgram richSt richIns).waiting)
#eval (runProgram richSt richIns).doneAt
#eval (runProgram richSt richIns).retention
#eval (runProgram richSt richIns).evict
#eval (runProgram richSt richIns).tie

-- mid-run
#eval let s := (richIns.take 9).foldl applyIn richSt; (s.waiting, s.queue.length, s.asm.map (·.items.length), s.semWait.length, s.running.length, s.retention, s.now)
end AiutiVerif.Batcher
