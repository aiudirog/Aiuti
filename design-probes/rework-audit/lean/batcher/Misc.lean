import AiutiVerif.Batcher.Props
import AiutiVerif.Decorators.Props
namespace AiutiVerif.Batcher

/-! 1. `demoPlan` and `demoPlanK` are the same definition. -/
example : demoPlan = demoPlanK := rfl

/-! 2. The window theorems that use `T` alone need three of the thirteen conjuncts of `Fresh4`. -/
theorem T_fresh' (s : St) (hr : s.retention = []) (he : s.evict = []) (hd : s.doneAt = []) : T s :=
  ⟨by simp [he], by simp [hr], by simp [hd], by simp [hr], by simp [hr], fun _ => he⟩

theorem retention_zero_forgets' (s0 : St) (hr : s0.retention = []) (he : s0.evict = []) (hd : s0.doneAt = [])
    (hz : s0.ret = 0) (ins : List In) :
    ∀ e ∈ (ins.foldl applyIn s0).retention, futState (ins.foldl applyIn s0) e.2 = none := by
  refine zero_forgets (foldl_applyIn_T ins s0 (T_fresh' s0 hr he hd)) ?_
  rw [foldl_applyIn_ret]
  exact hz

theorem old_result' (s0 : St) (hr : s0.retention = []) (he : s0.evict = []) (hdA : s0.doneAt = []) (ins : List In) (t : Nat)
    (hd : advanceDone fuelDefault t true (ins.foldl applyIn s0) = true) :
    let s := arrive (ins.foldl applyIn s0) t
    ∀ e ∈ s.retention, futState s e.2 ≠ none → ∃ c, (e.2, e.1, c) ∈ s.doneAt ∧ t ≤ c + s.ret ∧ c ≤ s.now :=
  old_result_only_within_window _ (foldl_applyIn_T ins s0 (T_fresh' s0 hr he hdA)) t hd

/-! 3. `programDone` gives the `advanceDone` hypothesis of `C10_on_time` / `C11_old_result_only_within_window` at every
input of the program (no theorem of the development says so; it is immediate). -/
theorem programDone_prefix : ∀ (a : List In) (s : St) (i : In) (b : List In), programDone s (a ++ i :: b) = true →
    advanceDone fuelDefault i.time true (a.foldl applyIn s) = true
  | [], s, i, b, h => by
    simp only [List.nil_append, programDone, Bool.and_eq_true] at h
    exact h.1
  | x :: a, s, i, b, h => by
    simp only [List.cons_append, programDone, Bool.and_eq_true] at h
    exact programDone_prefix a (applyIn s x) i b h.2

/-! 4. `T` does not say that a future has one `doneAt` entry: this state (not a reachable one) satisfies `T` with two. -/
def twoSt : St :=
  { maxb := 1, maxc := 1, bt := 1, ret := 100, plan := demoPlanK, now := 200,
    futs := [(7, some (.ok 7 0 0))], retention := [(7, 0)], evict := [(250, 7)],
    doneAt := [(0, 7, 15), (0, 7, 150)] }
example : T twoSt := by
  refine ⟨?_, ?_, ?_, ?_, ?_, ?_⟩
  · intro t ht
    have : t = (250, 7) := by simpa [twoSt] using ht
    subst this
    exact ⟨0, 150, by simp [twoSt], by simp [twoSt]⟩
  · intro e he _
    have : e = (7, 0) := by simpa [twoSt] using he
    subst this
    exact ⟨150, by simp [twoSt], by simp [twoSt]⟩
  · intro d hd
    have : d = (0, 7, 15) ∨ d = (0, 7, 150) := by simpa [twoSt] using hd
    rcases this with rfl | rfl <;> simp [twoSt]
  · intro e he
    have : e = (7, 0) := by simpa [twoSt] using he
    subst this
    simp [twoSt, futKey]
  · intro e he
    have : e = (7, 0) := by simpa [twoSt] using he
    subst this
    simp [twoSt]
  · intro h; simp [twoSt] at h

end AiutiVerif.Batcher

namespace AiutiVerif.Decorators
open AiutiVerif.Batcher

/-! 5. `C15_per_loop_independent` uses nothing about the batcher: it holds for any state type and any step function. -/
def regStepG {σ ι : Type} (step : σ → ι → σ) (s0 : σ) (r : Nat → Option σ) (li : Nat × ι) : Nat → Option σ :=
  fun l => if l = li.1 then some (step ((r li.1).getD s0) li.2) else r l
def aloneG {σ ι : Type} (step : σ → ι → σ) (s0 : σ) (o : Option σ) (is : List ι) : Option σ :=
  is.foldl (fun o i => some (step (o.getD s0) i)) o

theorem per_loop_independent_any {σ ι : Type} (step : σ → ι → σ) (s0 : σ) (ins : List (Nat × ι)) (l : Nat) :
    ∀ (r : Nat → Option σ), (ins.foldl (regStepG step s0) r) l =
      aloneG step s0 (r l) ((ins.filter (·.1 == l)).map (·.2)) := by
  induction ins with
  | nil => intro r; rfl
  | cons li rest ih =>
    intro r
    rw [List.foldl_cons, ih]
    by_cases h : li.1 = l
    · simp [regStepG, aloneG, h]
    · simp [regStepG, h, Ne.symm h]

example : @regStepG St In applyIn = regStep := rfl
example : @aloneG St In applyIn = alone := rfl
end AiutiVerif.Decorators
