import AiutiVerif.Batcher.Props
/-! The hypotheses `M`, `hM : s0.maxb ≤ M`, `hw : setsWithin M ins` of C10_concurrency, C10_fifo, C10_fifo_final
can always be met (take M large enough), and the conclusions do not mention `M`: they are superfluous. -/
namespace AiutiVerif.Batcher

def bigM (m : Nat) : List In → Nat
  | [] => m
  | .setMax _ n :: r => max n (bigM m r)
  | _ :: r => bigM m r

theorem bigM_ge (m : Nat) : ∀ ins, m ≤ bigM m ins
  | [] => Nat.le_refl _
  | .setMax _ n :: r => Nat.le_trans (bigM_ge m r) (Nat.le_max_right _ _)
  | .call _ _ _ _ :: r => bigM_ge m r
  | .cancel _ _ :: r => bigM_ge m r

theorem bigM_sets (m : Nat) : ∀ ins, setsWithin (bigM m ins) ins
  | [], _, _, h => by cases h
  | .setMax t' n' :: r, t, n, h => by
    rcases List.mem_cons.mp h with h | h
    · cases h; exact Nat.le_max_left _ _
    · exact Nat.le_trans (bigM_sets m r t n h) (Nat.le_max_right _ _)
  | .call _ _ _ _ :: r, t, n, h => by
    rcases List.mem_cons.mp h with h | h
    · cases h
    · exact bigM_sets m r t n h
  | .cancel _ _ :: r, t, n, h => by
    rcases List.mem_cons.mp h with h | h
    · cases h
    · exact bigM_sets m r t n h

theorem concurrency_noM (s0 : St) (hf : Fresh s0) (ins : List In) :
    (ins.foldl applyIn s0).running.length ≤ s0.maxc ∧ (runProgram s0 ins).running.length ≤ s0.maxc :=
  C10_concurrency (bigM s0.maxb ins) s0 hf (bigM_ge _ _) ins (bigM_sets _ _)

theorem fifo_noM (s0 : St) (hf : Fresh s0) (ins : List In) :
    let s := ins.foldl applyIn s0
    s.started ++ flatW s.semWait ++ asmFuts s ++ s.queue.map Item.fut = s.arrivals ∧ s.started <+: s.arrivals :=
  C10_fifo (bigM s0.maxb ins) s0 hf (bigM_ge _ _) ins (bigM_sets _ _)

theorem fifo_final_noM (s0 : St) (hf : Fresh s0) (ins : List In) :
    (runProgram s0 ins).started <+: (runProgram s0 ins).arrivals :=
  C10_fifo_final (bigM s0.maxb ins) s0 hf (bigM_ge _ _) ins (bigM_sets _ _)

-- C10_batch_sizes: first conjunct and `1 ≤ p.1 ∧ p.1 ≤ max 1 p.2` likewise need no M
theorem batch_sizes_noM (s0 : St) (hf : Fresh s0) (ins : List In) :
    let s := runProgram s0 ins
    outSizes s.outs = s.batchLog.map (·.1) ∧ ∀ p ∈ s.batchLog, 1 ≤ p.1 ∧ p.1 ≤ max 1 p.2 :=
  have h := C10_batch_sizes (bigM s0.maxb ins) s0 hf (bigM_ge _ _) ins (bigM_sets _ _)
  ⟨h.1, fun p hp => ⟨(h.2 p hp).1, (h.2 p hp).2.1⟩⟩

#print axioms concurrency_noM
end AiutiVerif.Batcher
