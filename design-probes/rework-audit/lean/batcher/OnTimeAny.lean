import AiutiVerif.Batcher.Props
/-! `C10_on_time` is `arrive_onTime` for an arbitrary state: `s0` is unconstrained and `ins` may be `[]`, so the run plays
no part; the proof (`onTime_of_quiet`, `advance_quiet`) reads `candidates`/`minEv`/`advance` only, nothing of `ext`,
`dispatch`, `bt`: it says that `advance` leaves nothing due, whatever the deadlines are set to. -/
namespace AiutiVerif.Batcher
example (s : St) (t : Nat) (hd : advanceDone fuelDefault t true s = true) : OnTime (arrive s t) t :=
  C10_on_time s [] t hd
example (s0 : St) (ins : List In) (t : Nat) (hd : advanceDone fuelDefault t true (ins.foldl applyIn s0) = true) :
    OnTime (arrive (ins.foldl applyIn s0) t) t := arrive_onTime _ t hd
-- a state that is no batcher state at all (deadline in the far future, bt = 1) is "on time"
def odd : St := { maxb := 5, maxc := 1, bt := 1, ret := 0, plan := demoPlanK,
                  asm := some { items := [{ key := 1, arg := 1, fut := 0 }], deadline := 99999, bound := 5 } }
example : advanceDone fuelDefault 50 true odd = true := by decide +kernel
example : OnTime (arrive odd 50) 50 := C10_on_time odd [] 50 (by decide +kernel)
end AiutiVerif.Batcher
