import AiutiVerif.Batcher.Props
/-! `C04_all_answered_at_rest` / `C04_every_call_is_served` speak of caller ids, not of calls: with a caller id used for
two calls (nothing forbids it) two calls share one `done` event and the theorem is satisfied. -/
namespace AiutiVerif.Batcher
def twice : List In := [.call 0 0 0 7, .call 1 0 0 8, .cancel 2 0]
-- all hypotheses of C04_all_answered_at_rest hold
example : Fresh3 cancelSt := by simp [Fresh3, Fresh2, Fresh, cancelSt]
example : (runProgram cancelSt twice).queue = [] ∧ (runProgram cancelSt twice).asm = none ∧
    (runProgram cancelSt twice).semWait = [] ∧ (runProgram cancelSt twice).running = [] := by decide +kernel
-- two calls, ONE done event in the whole output (plus the batch record)
example : (runProgram cancelSt twice).outs = [Out.done 2 0 .cancelled, Out.batch 11 0 [7, 8]] := by decide +kernel
example : (runProgram cancelSt twice).waiting = [] := by decide +kernel
end AiutiVerif.Batcher
