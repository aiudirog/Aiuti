import AiutiVerif.Batcher.Props
import AiutiVerif.Decorators.Props
/-! Non-trivial witnesses: every hypothesis of the run-level end results holds together on a program that exercises the
property, and the instantiated theorem yields a fact with content. -/
namespace AiutiVerif.Batcher

def richPlan : Plan := { per := [[0], [1], [2], [3], [4], [5], [0, 1]], order := 1, raiseAt := [99, 99, 1], idelay := 3, tail := 1 }
def richSt : St := { maxb := 3, maxc := 1, bt := 10, ret := 20, plan := richPlan }
def richIns : List In :=
  [.call 0 0 10 0, .call 1 1 11 1, .call 2 2 12 2,
   .call 3 3 13 3, .call 4 4 14 0, .call 5 5 15 6,
   .setMax 6 2, .call 7 6 16 4, .call 8 7 17 5,
   .cancel 9 4, .call 60 8 18 0, .call 61 9 19 1, .call 200 10 20 0]

example : Fresh4 richSt := by simp [Fresh4, Fresh3, Fresh2, Fresh, richSt]
theorem richF3 : Fresh3 richSt := by simp [Fresh3, Fresh2, Fresh, richSt]
theorem richF : Fresh richSt := by simp [Fresh, richSt]

/-! ## C04 run level -/
-- at rest after the drain: all four rest hypotheses hold, 11 calls, each with its done event
theorem richRest : (runProgram richSt richIns).queue = [] ∧ (runProgram richSt richIns).asm = none ∧
    (runProgram richSt richIns).semWait = [] ∧ (runProgram richSt richIns).running = [] := by decide +kernel
example : (runProgram richSt richIns).waiting = [] ∧
    ∀ t c arg key, In.call t c arg key ∈ richIns → ∃ t' o, Out.done t' c o ∈ (runProgram richSt richIns).outs :=
  C04_all_answered_at_rest richSt richF3 richIns richRest.1 richRest.2.1 richRest.2.2.1 richRest.2.2.2
example : (richIns.filter fun i => match i with | .call .. => true | _ => false).length = 11 := by decide
-- mid-run 7 callers are suspended, on futures in the queue (1), waiting for a slot (1 batch), in a running batch (1)
example : let s := (richIns.take 9).foldl applyIn richSt
    s.waiting.length = 7 ∧ s.queue.length = 1 ∧ s.semWait.length = 1 ∧ s.running.length = 1 := by decide +kernel
-- a sharer (caller 4, key 0) really waits on the original's future 0
example : (4, 0) ∈ ((richIns.take 5).foldl applyIn richSt).waiting ∧ (0, 0) ∈ ((richIns.take 5).foldl applyIn richSt).waiting := by
  decide +kernel

/-! ## C04_answer_is_final: future 0 has its value after the first 7 inputs and more inputs (the same key again, after the
window too) follow -/
example : futState ((richIns.take 7).foldl applyIn richSt) 1 = some (.exc 2100) := by decide +kernel
example : futState (runProgram richSt richIns) 1 = some (.exc 2100) := by
  have := (C04_answer_is_final richSt richF3.1 (richIns.take 7) (richIns.drop 7) 1 (.exc 2100) (by decide +kernel)).2
  rwa [List.take_append_drop] at this

/-! ## C10 with a mutation -/
example : setsWithin 3 richIns := by
  intro t n h
  simp [richIns] at h
  omega
example : (runProgram richSt richIns).batchLog = [(3, 3), (3, 3), (1, 2), (2, 2), (1, 2)] := by decide +kernel
-- concurrency bound reached and a batch waiting
example : ((richIns.take 9).foldl applyIn richSt).running.length = richSt.maxc := by decide +kernel

/-! ## C10_on_time: an instant with a running batch, an open assembly and a pending retention timer -/
def otIns : List In := [.call 0 0 0 0, .call 0 1 1 1, .call 0 2 2 2, .call 1 3 3 3, .call 4 4 4 4]
theorem otDone : advanceDone fuelDefault 6 true (otIns.foldl applyIn richSt) = true := by decide +kernel
example : let s := arrive (otIns.foldl applyIn richSt) 6
    s.running.map (·.next) = [6] ∧ s.asm.map (·.deadline) = some 14 ∧ s.evict = [(23, 1)] ∧ s.queue = [] := by decide +kernel
example : let s := arrive (otIns.foldl applyIn richSt) 4
    s.queue.length = 1 ∧ s.qtime = 4 ∧ advanceDone fuelDefault 4 true (otIns.foldl applyIn richSt) = true := by decide +kernel
example := C10_on_time richSt otIns 6 otDone
-- OnTime.queue can be exercised too: two calls at the same instant
example : (arrive (([.call 5 0 0 0] : List In).foldl applyIn richSt) 5).queue.length = 1 ∧
    advanceDone fuelDefault 5 true (([.call 5 0 0 0] : List In).foldl applyIn richSt) = true := by decide +kernel

/-! ## C11 -/
-- no duplicate key: the program re-requests key 0 while pending (t=4), inside the window? (t=60 is after 8+20), after it (t=200)
example : (batchesOf (runProgram richSt richIns).outs).map (·.2.2) = [[0, 1, 2], [3, 6, 4], [5], [0, 1], [0]] := by decide +kernel
-- pending work: 1 batch waiting for a slot (3 items) + 1 queued item
example : let s := (richIns.take 9).foldl applyIn richSt
    (flatI s.semWait ++ (asmI s ++ s.queue)).length = 4 := by decide +kernel
-- retention 0: something is remembered (pending)
def zeroSt : St := { richSt with ret := 0 }
example : Fresh4 zeroSt ∧ zeroSt.ret = 0 := by simp [Fresh4, Fresh3, Fresh2, Fresh, zeroSt, richSt]
example : ((richIns.take 9).foldl applyIn zeroSt).retention.length = 6 := by decide +kernel

-- window: ret = 20. key 0 answered at 8; a call at t = 20 shares (inside), a call at 28 is a tie, at 29 is new work
def winIns : List In := [.call 0 0 10 0, .call 1 1 11 1, .call 2 2 12 2, .call 9 3 0 9]
example : (0, 0) ∈ (winIns.foldl applyIn richSt).retention ∧ futState (winIns.foldl applyIn richSt) 0 = some (.ok 0 10 0) ∧
    (0, 0, 8) ∈ (winIns.foldl applyIn richSt).doneAt := by decide +kernel
example : advanceDone fuelDefault 20 true (winIns.foldl applyIn richSt) = true ∧
    (0, 0) ∈ (arrive (winIns.foldl applyIn richSt) 20).retention ∧
    (0, 0) ∈ (arrive (winIns.foldl applyIn richSt) 28).retention ∧
    (arrive (winIns.foldl applyIn richSt) 29).retention.find? (·.1 == 0) = none := by decide +kernel
-- the sharer at t = 20 gets the original's value at once
example : (applyIn (winIns.foldl applyIn richSt) (.call 20 77 5 0)).outs.getLast? = some (Out.done 20 77 (.ok 0 10 0)) := by
  decide +kernel

-- C11_sharer_adds_no_work, a real run: caller 50 asks for key 0 at t = 20 (remembered, answered)
example : ((arrive (winIns.foldl applyIn richSt) 20).retention.find? (·.1 == 0)).isSome = true := by decide +kernel
example : doneOf 50 (runProgram richSt (winIns ++ [In.call 20 50 5 0] ++ [In.call 100 60 0 0])).outs = [(20, .ok 0 10 0)] ∧
    doneOf 50 (runProgram richSt (winIns ++ [In.cancel 20 50] ++ [In.call 100 60 0 0])).outs = [] := by decide +kernel

-- step theorems: the hypothesis of C11_shared_adds_no_work in its two cases, and of C11_fresh_adds_work
example : (arrive ((richIns.take 4).foldl applyIn richSt) 4).retention.find? (·.1 == 0) = some (0, 0) ∧
    futState (arrive ((richIns.take 4).foldl applyIn richSt) 4) 0 = none := by decide +kernel
example : (arrive (winIns.foldl applyIn richSt) 20).retention.find? (·.1 == 0) = some (0, 0) ∧
    futState (arrive (winIns.foldl applyIn richSt) 20) 0 = some (.ok 0 10 0) := by decide +kernel
example : (arrive (winIns.foldl applyIn richSt) 29).retention.find? (·.1 == 0) = none := by decide +kernel

/-! ## C09: two cancellations (one of an original while its batch runs, one of a sharer), against never-calling ids -/
def cA : List In := [.call 0 0 10 0, .call 1 1 11 1, .call 2 2 12 2, .call 3 3 13 0, .cancel 4 0, .cancel 5 3, .call 30 4 0 0]
def cB : List In := [.call 0 0 10 0, .call 1 1 11 1, .call 2 2 12 2, .call 3 3 13 0, .cancel 4 98, .cancel 5 99, .call 30 4 0 0]
def cX : Nat → Bool := fun c => c == 0 || c == 3 || c == 98 || c == 99
theorem cV : CancelVariant cX cA cB :=
  .same _ (.same _ (.same _ (.same _ (.cancels 4 0 98 rfl rfl (.cancels 5 3 99 rfl rfl (.same _ .nil))))))
example : doneOf 0 (runProgram richSt cA).outs = [(4, .cancelled)] ∧ doneOf 3 (runProgram richSt cA).outs = [(5, .cancelled)] ∧
    doneOf 0 (runProgram richSt cB).outs = [(8, .ok 0 10 0)] ∧ doneOf 3 (runProgram richSt cB).outs = [(8, .ok 0 10 0)] ∧
    doneOf 1 (runProgram richSt cA).outs = [(5, .exc 2100)] ∧ (doneOf 4 (runProgram richSt cA).outs).length = 1 := by decide +kernel
example := C09_cancellations_invisible cX richSt cA cB cV

end AiutiVerif.Batcher

namespace AiutiVerif.Decorators
open AiutiVerif.Batcher
/-- `C15_step_frame` is the instance `ins = [(l, i)]` of `C15_per_loop_independent`. -/
example (s0 : St) (r : Registry) (l l' : Nat) (i : In) (h : l' ≠ l) : regStep s0 r (l, i) l' = r l' := by
  have := C15_per_loop_independent s0 [(l, i)] l' r
  simpa [alone, Ne.symm h] using this
-- two loops interleaved, a non-trivial instance
example : AiutiVerif.Generated.decorators.length = 3 := by decide
end AiutiVerif.Decorators
