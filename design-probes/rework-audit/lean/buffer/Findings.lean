import AiutiVerif.Buffer.RunProps
namespace AiutiVerif.Buffer

/-! ## 1. `AtRest` is `pc = idle ∧ queue = []` : the two "all delivered" theorems say the same -/

/-- no invariant needed -/
theorem atRest_of_idle_empty (s : St) (hpc : s.pc = Pc.idle) (hq : s.queue = []) : AtRest s := by
  constructor
  · unfold zstep; simp [hpc, hq]
  · unfold nextTimed; cases hg : s.getting <;> simp [hpc]

/-- `C03_all_delivered_at_rest` from `C03_all_delivered_when_nothing_can_move` in one line … -/
example (s0 : St) (hf : Fresh s0) (ins : List In) (hn : noShutdown ins) :
    let s := runProgram s0 ins
    s.pc = Pc.idle → s.queue = [] → ∀ x ∈ s.submitted, x ∈ (deliveredOf s.outs).1 :=
  fun hpc hq => C03_all_delivered_when_nothing_can_move s0 hf ins hn (atRest_of_idle_empty _ hpc hq)
/-- … and the other way round it is how the file proves it (`rest_idle`).  Under `Fresh`/`noShutdown` the two
hypotheses are equivalent: -/
example (s0 : St) (hf : Fresh s0) (ins : List In) (hn : noShutdown ins) :
    AtRest (runProgram s0 ins) ↔ (runProgram s0 ins).pc = Pc.idle ∧ (runProgram s0 ins).queue = [] := by
  obtain ⟨hk, hl⟩ := KL_runProgram s0 ins (K_fresh s0 hf) (L_fresh s0 hf) hn
  exact ⟨rest_idle _ hk hl, fun h => atRest_of_idle_empty _ h.1 h.2⟩

/-! ## 2. Statements made of the drained state only, where they are degenerate whenever the drain ends at rest -/

def NE (acc : RSt) : Prop := ∀ c l, acc = some (c, l) → (∀ a, c = some a → a ≠ []) ∧ (∀ f, l = some f → f ≠ [])

theorem NE_step (acc : RSt) (o : Out) (h : NE acc) (ho : ∀ t a, o = Out.start t a → a ≠ []) : NE (stepRetry acc o) := by
  intro c l hcl
  cases o with
  | start t a =>
    have ha := ho t a rfl
    rcases acc with _ | ⟨c0, _ | f0⟩
    · simp [stepRetry] at hcl
    · simp [stepRetry] at hcl
      obtain ⟨rfl, rfl⟩ := hcl
      exact ⟨fun a' h' => by cases h'; exact ha, nofun⟩
    · simp only [stepRetry] at hcl
      split at hcl
      · simp at hcl
        obtain ⟨rfl, rfl⟩ := hcl
        exact ⟨fun a' h' => by cases h'; exact ha, nofun⟩
      · cases hcl
  | fin t ok =>
    rcases acc with _ | ⟨c0, l0⟩
    · cases ok <;> simp [stepRetry] at hcl
    · cases ok <;> simp [stepRetry] at hcl
      · obtain ⟨rfl, rfl⟩ := hcl
        exact ⟨nofun, fun f hf => (h c0 l0 rfl).1 f hf⟩
      · obtain ⟨rfl, rfl⟩ := hcl; exact ⟨nofun, nofun⟩
  | waitRet id t => exact h c l hcl

theorem NE_foldl : ∀ (outs : List Out) (acc : RSt), NE acc → (∀ t a, Out.start t a ∈ outs → a ≠ []) →
    NE (outs.foldl stepRetry acc) := by
  intro outs
  induction outs with
  | nil => intro acc h _; exact h
  | cons o r ih =>
    intro acc h hs
    exact ih _ (NE_step acc o h fun t a e => hs t a (by simp [e])) (fun t a ha => hs t a (List.mem_cons_of_mem _ ha))

/-- at rest the third conjunct of `C03_failed_call_is_offered_again` has a hypothesis that is never met … -/
theorem third_conjunct_empty_at_rest (s0 : St) (hf : Fresh s0) (ins : List In) (hn : noShutdown ins)
    (hr : AtRest (runProgram s0 ins)) : ∀ cur f, retry (runProgram s0 ins).outs ≠ some (cur, some f) := by
  intro cur f he
  obtain ⟨hk, hl⟩ := KL_runProgram s0 ins (K_fresh s0 hf) (L_fresh s0 hf) hn
  have hpc := (rest_idle _ hk hl hr).1
  have hin := hk.idleInputs (.inl hpc)
  have h3 := (C03_failed_call_is_offered_again s0 hf ins hn).2.2 cur f he
  have hne := (NE_foldl _ _ (by intro c l h; cases h; exact ⟨nofun, nofun⟩) hk.startsOk cur (some f) he).2 f rfl
  cases f with
  | nil => exact hne rfl
  | cons x r => have := h3 x (by simp); rw [hin] at this; cases this

/-- … the second conjunct of `C03_only_submitted` likewise, `C07_unfinished_exact` reads `0 = 0`, and (closed foreign
clears) `C07_blocked_waiter_covered` quantifies over the empty list -/
theorem final_degenerate (s0 : St) (hf : Fresh s0) (ins : List In) (hn : noShutdown ins)
    (hr : AtRest (runProgram s0 ins)) :
    let s := runProgram s0 ins
    (deliveredOf s.outs).2 = none ∧ s.unfinished = 0 ∧ s.queue.length + (if capOpen s then 1 else 0) = 0 ∧
    (openClear ins = false → s.flaggers = []) := by
  intro s
  obtain ⟨hk, hl⟩ := KL_runProgram s0 ins (K_fresh s0 hf) (L_fresh s0 hf) hn
  obtain ⟨hpc, hq⟩ := rest_idle _ hk hl hr
  have hu : s.unfinished = 0 := by simpa [hq, (hk.roundEnd (hpc ▸ rfl)).2.2.2.1] using hk.unfin
  refine ⟨by rw [hk.outsCur, hpc]; rfl, hu, by rw [← hk.unfin]; exact hu, fun hc => ?_⟩
  exact (C07_wait_always_returns s0 hf ins hn hc hr).2.2.1

/-- whereas in the state right after the inputs (where no end result states them) all three have content -/
def trS : St := ([In.submit 0 [(0, some 1)], .wait 1 7 true, .submit 5 [(50, some 2)], .wait 6 8 false] : List In).foldl applyIn
      ({ T := 100, outcomes := [(0, false)] } : St)
example : let s := trS
    retry s.outs = some (none, some [1]) ∧ s.inputs = [1] ∧ s.flaggers.map (·.id) = [7] ∧ s.joiners.map (·.id) = [8] ∧
    s.unfinished = 1 ∧ capOpen s = true := by decide +kernel

/-! ## 3. `QuietIn` excludes the foreign inputs: not "every C03 / C07 / C08 theorem holds for programs containing them" -/
example (t : Nat) : ¬ QuietIn (.fclear t) := id
example (t : Nat) (p : Producer) : ¬ QuietIn (.fput t p) := id
example (ins : List In) (hin : ∀ i ∈ ins, QuietIn i) : ∀ i ∈ ins, (∀ t, i ≠ .fclear t) ∧ ∀ t p, i ≠ .fput t p :=
  fun i hi => ⟨fun t e => by subst e; exact hin _ hi, fun t p e => by subst e; exact hin _ hi⟩

/-! ## 4. a waiter blocked on the flag is released without any call (step `done`: empty input set) -/
example : let ins := [In.submit 0 [], .wait 1 7 false]
    ((ins.foldl applyIn { T := 8, outcomes := [] }).flaggers.map (·.id)) = [7] ∧
    (runProgram { T := 8, outcomes := [] } ins).outs = [.waitRet 7 8] := by decide +kernel
/-- the same with elements before it: 1 is delivered, then an empty producer clears the flag, the waiter blocks on it
and is released at 2000 + 8 by `done`, no call -/
example : let ins := [In.submit 0 [(0, some 1)], .submit 2000 [], .wait 2001 7 false]
    ((ins.foldl applyIn { T := 8, outcomes := [] }).flaggers) = [⟨7, false, 1⟩] ∧
    (runProgram { T := 8, outcomes := [] } ins).outs = [.start 8 [1], .fin 8 true, .waitRet 7 2008] := by decide +kernel

/-! ## 5. the barrier statement cannot tell a return after the call from a return before it -/
example : waitIds [.start 8 [1], .fin 8 true, .waitRet 7 8] = waitIds [.waitRet 7 8, .start 8 [1], .fin 8 true] ∧
    deliveredOf [.start 8 [1], .fin 8 true, .waitRet 7 8] = deliveredOf [.waitRet 7 8, .start 8 [1], .fin 8 true] := by decide
/-- the form that covers every instant (every move after every prefix) is true, and is not an end result -/
theorem barrier_every_move (s0 : St) (hf : Fresh s0) (ins : List In) (hn : noShutdown ins) (n : Nat) :
    let s := tickN n (ins.foldl applyIn s0)
    waitIds s.outs = s.retLog.map (·.1) ∧
    ∀ r ∈ s.retLog, ∀ x ∈ s.submitted.take r.2, x ∈ (deliveredOf s.outs).1 := by
  have h := (KL_after hf hn n).1
  exact ⟨h.outsWaits, fun r hr x hx => by rw [h.outsDeliv]; exact (h.retOk r hr).2 x hx⟩

/-! ## 6. hypotheses not needed -/
theorem zstep_less' (s s' : St) (hz : zstep s = some s') : Less s' s := (zstep_step hz).less

/-- coming to rest needs `K` only; `L` is only handed through -/
theorem ticks_reach_rest_K (s : St) (hk : K s) : ∃ n, AtRest (tickN n s) ∧ K (tickN n s) := by
  have key : ∀ m : Nat × Nat × Nat, ∀ s : St, mu s = m → K s → ∃ n, AtRest (tickN n s) ∧ K (tickN n s) := by
    intro m
    induction m using lex_wf.induction with
    | _ m ih =>
      intro s hm hk
      cases ht : tick s with
      | none => exact ⟨0, (tick_none_iff s).mp ht, hk⟩
      | some s' =>
        have hk' := K_stable.tick ht hk
        have hless : Less s' s := by
          rcases tick_cases ht with hz | ⟨w, k, _, hn, rfl⟩
          · exact (zstep_step hz).less
          · exact fireTimed_less s w k hk hn
        have hlex := (less_iff_lex s' s).mp hless
        rw [hm] at hlex
        obtain ⟨n, hn⟩ := ih (mu s') hlex s' rfl hk'
        exact ⟨n + 1, by rw [tickN_succ_some n s s' ht]; exact hn⟩
  exact key (mu s) s rfl hk

/-- `C08_quiet_period` without `0 < T`: for `T = 0` the conclusion is `Nat.le_total` -/
theorem quiet_period_no_ht (s0 : St) (hf : Fresh s0) (hl : s0.lastSub = 0) (hs : s0.subTimes = [])
    (ins : List In) (hin : ∀ i ∈ ins, QuietIn i) :
    let s := runProgram s0 ins
    ∀ t a, Out.start t a ∈ s.outs → ∀ b ∈ s.subTimes, b + s0.T ≤ t ∨ t ≤ b := by
  intro s t a hst b hb
  by_cases ht : 0 < s0.T
  · exact C08_quiet_period s0 hf ht hl hs ins hin t a hst b hb
  · have : s0.T = 0 := by omega
    rw [this]; exact Nat.le_total _ _

/-! ## 7. duplicates -/
example {fc : Bool} (s : St) (n : Nat) (h : L fc s) : L fc { s with now := n } := L_clock s n s.tie h   -- `L_now`
example (s : St) (w : Waiter) : (passJoin s w).joiners = s.joiners := (passJoin_frame s w).2.2          -- `passJoin_joiners`
example {α} {l : List α} (h : l ≠ []) : 0 < l.length := List.length_pos_iff.mpr h                        -- `length_pos_of_ne_nil`: a core lemma under another name
example (s0 : St) (ins : List In) : ∃ k, runProgram s0 ins = tickN k (ins.foldl applyIn s0) :=
  advance_is_ticks _ _ _ _                                                                              -- `C07_runProgram_is_ticks`

end AiutiVerif.Buffer
