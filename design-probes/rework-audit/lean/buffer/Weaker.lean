import AiutiVerif.Buffer.RunProps
namespace AiutiVerif.Buffer

/-- `lastSub = 0` is more than the proof needs: `lastSub ≤ now` does -/
theorem Q_fresh' (s : St) (h : Fresh s) (ht : 0 < s.T) (hl : s.lastSub ≤ s.now) (hs : s.subTimes = []) : Q s := by
  obtain ⟨a1, a2, a3, a4, a5, a6, a7, a8, a9, a10, a11, a12, a13, a14, a15⟩ := h
  constructor <;> simp_all [gstate]

theorem quiet_period_weaker (s0 : St) (hf : Fresh s0) (ht : 0 < s0.T) (hl : s0.lastSub ≤ s0.now) (hs : s0.subTimes = [])
    (ins : List In) (hin : ∀ i ∈ ins, QuietIn i) :
    let s := runProgram s0 ins
    ∀ t a, Out.start t a ∈ s.outs → ∀ b ∈ s.subTimes, b + s0.T ≤ t ∨ t ≤ b := by
  intro s t a hst b hb
  have ⟨hk, hq, _⟩ := KQI_foldl ins s0 (K_fresh s0 hf) (Q_fresh' s0 hf ht hl hs) (InputOk_fresh s0 hf) hin
  have := ((KQ_advance fuelDefault horizon false _ hk hq).2.startsQuiet t a hst).2 b hb
  rwa [show (advance fuelDefault horizon false (List.foldl applyIn s0 ins)).T = s0.T from runProgram_T s0 ins] at this

/-- the prefix form of `C07_wait_always_returns` could conclude as much as the final one -/
theorem wait_prefix_full (s0 : St) (hf : Fresh s0) (ins : List In) (hn : noShutdown ins) (hc : openClear ins = false) :
    let s := ins.foldl applyIn s0
    AtRest s → s.pc = Pc.idle ∧ s.queue = [] ∧ s.unfinished = 0 := by
  intro s hr
  have ⟨_, _, _, _, _, h6, h7, h8⟩ := rest_after hf hn hc 0 hr
  exact ⟨h6, h7, h8⟩
end AiutiVerif.Buffer
