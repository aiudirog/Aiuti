import AiutiVerif.Buffer.RunProps
/-! Non-trivial witnesses: all hypotheses of each run-level end result met together by a program in which
the interesting event really happens. -/
namespace AiutiVerif.Buffer

/-- a failing first call (retried), a slow producer that fails after one element, a waiter blocked in `q.join()`,
one blocked on the flag, a forced flush, a foreign submission -/
def w0 : St := { T := 100, outcomes := [(30, false), (5, true)] }
def wIns : List In :=
  [.submit 0 [(0, some 1)], .wait 1 70 false, .submit 50 [(20, some 2), (0, none), (0, some 99)],
   .wait 60 71 false, .fclear 300, .fput 310 [(0, some 3)], .wait 320 72 true, .submit 1000 [], .wait 1001 73 false]

instance : DecidablePred Fresh := fun s => by unfold Fresh; infer_instance
instance (ins : List In) : Decidable (noShutdown ins) := by unfold noShutdown; infer_instance

example : Fresh w0 := by decide
example : noShutdown wIns := by decide
example : openClear wIns = false := by decide
example : (allItems wIns).Nodup := by decide
example : allItems wIns = [1, 2, 3] := by decide

#eval (runProgram w0 wIns).outs
#eval (runProgram w0 wIns).retLog
#eval (runProgram w0 wIns).submitted
#eval atRest (runProgram w0 wIns)
#eval (wIns.foldl applyIn w0).outs
#eval atRest (wIns.foldl applyIn w0)

/-- C03_all_delivered_*, C03_exactly_once, C03_only_submitted, C07_barrier, C07_wait_always_returns, C08_serial_nonempty,
C03_failed_call_is_offered_again (conjunct 1): the run has a failed call, a retry, three successful calls, four waiters -/
example :
    let s := runProgram w0 wIns
    atRest s = true ∧ s.submitted = [1, 2, 3] ∧ (deliveredOf s.outs).1 = [1, 2, 3] ∧
    s.retLog = [(70, 1), (71, 2), (72, 3), (73, 3)] ∧ waitsOf wIns = [70, 71, 72, 73] ∧
    s.outs = [.start 170 [1, 2], .fin 200 false, .start 300 [1, 2], .fin 305 true, .waitRet 70 305, .waitRet 71 305,
              .start 320 [3], .fin 320 true, .waitRet 72 320, .waitRet 73 1100] := by decide +kernel

end AiutiVerif.Buffer
