import AiutiVerif.Buffer.RunProps
namespace AiutiVerif.Buffer

instance : DecidablePred Fresh := fun s => by unfold Fresh; infer_instance
instance (ins : List In) : Decidable (noShutdown ins) := by unfold noShutdown; infer_instance
instance : DecidablePred QuietIn := fun i => by cases i <;> unfold QuietIn <;> infer_instance

/-! ### C07_wait_always_returns_prefix: the state right after the last input is at rest, with waiters that were really blocked -/
def p0 : St := { T := 100, outcomes := [(30, false)] }
def pIns : List In := [.submit 0 [(7, some 1)], .wait 1 70 false, .wait 2 71 true, .wait 5000 72 false]
example : Fresh p0 ∧ noShutdown pIns ∧ openClear pIns = false := by decide
example : let s := pIns.foldl applyIn p0
    atRest s = true ∧ waitsOf pIns = [70, 71, 72] ∧ waitIds s.outs = [70, 71, 72] ∧
    s.outs = [.start 7 [1], .fin 37 false, .start 137 [1], .fin 137 true, .waitRet 70 137, .waitRet 71 137, .waitRet 72 5000] := by
  decide +kernel

/-! ### C08_quiet_period(_prefix), C08_burst_delivered_together: QuietIn program, T > 0, a long failing call with
submissions arriving during it, a retry, a waiter -/
def q0 : St := { T := 100, outcomes := [(500, false), (3, true)] }
def qIns : List In :=
  [.submit 0 [(0, some 1)], .submit 60 [(0, some 2), (0, some 3)], .submit 300 [(0, some 4)], .wait 310 9 false,
   .submit 420 [(0, none)], .submit 2000 [(0, some 5)]]
example : Fresh q0 ∧ 0 < q0.T ∧ q0.lastSub = 0 ∧ q0.subTimes = [] ∧ (∀ i ∈ qIns, QuietIn i) := by decide
example : let s := runProgram q0 qIns
    s.subTimes = [0, 60, 300, 420, 2000] ∧
    s.outs = [.start 160 [1, 2, 3], .fin 660 false, .start 760 [1, 2, 3, 4], .fin 763 true, .waitRet 9 763,
              .start 2100 [5], .fin 2100 true] := by decide +kernel
/-- prefix form: the call at 160 is in flight when the later submissions arrive -/
example : let s := (qIns.take 4).foldl applyIn q0
    s.outs = [.start 160 [1, 2, 3]] ∧ s.subTimes = [0, 60, 300] ∧ s.pc = Pc.running 660 false := by decide +kernel

/-- C08_burst_delivered_together: about to make the retry (second call), with the late arrival 4 in the set -/
example : let s := tickN 6 ((qIns.take 5).foldl applyIn q0)
    s.pc = Pc.runfunc ∧ s.inputs = [1, 2, 3, 4] ∧ s.now = 760 ∧ s.lastSub = 420 ∧ s.submitted = [1, 2, 3, 4] := by
  decide +kernel

/-! ### C08_never_empty: a state (not even reachable) at `runfunc` -/
example : let s : St := { T := 5, outcomes := [], pc := .runfunc, inputs := [4, 2], now := 9 }
    ∃ s', zstep s = some s' ∧ Out.start 9 [2, 4] ∈ s'.outs ∧ Out.start 9 [2, 4] ∉ s.outs := by
  refine ⟨_, rfl, ?_, ?_⟩ <;> decide

/-! ### C03_kept_on_failure / C03_delivered_on_success / C07_shutdown_partial: hypotheses are one equation on `pc` -/
example : (fireTimed { T := 5, outcomes := [], pc := .running 9 false, inputs := [4, 2] } 9 1).inputs = [4, 2] := by decide
example : (fireTimed { T := 5, outcomes := [], pc := .running 9 true, inputs := [4, 2] } 9 1).delivered = [2, 4] := by decide

/-! ### final states that are NOT at rest exist only when the horizon (10^9) or the fuel cuts the drain -/
def h0 : St := { T := 2000000000, outcomes := [(0, false)] }
def hIns : List In := [.submit 0 [(0, some 1)], .wait 1 7 true, .submit 5 [(2000000000, some 2)], .wait 6 8 false]
example : Fresh h0 ∧ noShutdown hIns := by decide
#eval (runProgram h0 hIns).outs
#eval (runProgram h0 hIns).pc
#eval (runProgram h0 hIns).flaggers
#eval (runProgram h0 hIns).joiners
#eval (runProgram h0 hIns).unfinished
#eval retry (runProgram h0 hIns).outs
#eval atRest (runProgram h0 hIns)

end AiutiVerif.Buffer
