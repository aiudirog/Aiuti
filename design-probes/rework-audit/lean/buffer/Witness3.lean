import AiutiVerif.Buffer.RunProps
namespace AiutiVerif.Buffer

instance : DecidablePred Fresh := fun s => by unfold Fresh; infer_instance
instance (ins : List In) : Decidable (noShutdown ins) := by unfold noShutdown; infer_instance

/-! `C07_blocked_waiter_covered` at a drained state that is at rest: only with an open foreign clear is anybody left
in `flaggers`; here the waiter has `before = 1` and the element is `InRound` by having been delivered -/
def bIns : List In := [.submit 0 [(0, some 1)], .fclear 2000, .wait 2001 7 false]
example : Fresh { T := 8, outcomes := [] } ∧ noShutdown bIns ∧ openClear bIns = true := by decide
example : let s := runProgram { T := 8, outcomes := [] } bIns
    atRest s = true ∧ s.flaggers = [⟨7, false, 1⟩] ∧ s.event = false ∧ s.submitted = [1] ∧ s.delivered = [1] := by
  decide +kernel

/-! `C07_wait_always_returns`: for a program that uses one id twice the conclusion `∀ id ∈ waitsOf ins, id ∈ waitIds outs`
is met by a stream with a single return (that nobody is left behind is what `joiners = [] ∧ flaggers = []` adds) -/
example : waitsOf [.wait 1 7 false, .wait 2 7 false] = [7, 7] ∧
    ∀ id ∈ waitsOf [.wait 1 7 false, .wait 2 7 false], id ∈ waitIds [.waitRet 7 1] := by decide

/-! `ticks_reach_rest`, `zstep_less`, `fireTimed_less`: `K`, `L`, an enabled step / a pending timed event, together -/
def r0 : St := [In.submit 0 [(5, some 1)], .wait 1 7 false].foldl applyIn { T := 8, outcomes := [(3, false)] }
example : K r0 ∧ L false r0 :=
  KL_foldl _ false _ (K_fresh _ (by decide)) (L_fresh _ (by decide)) (by decide)
example : r0.pc = Pc.loading 5 ∧ nextTimed r0 = some (5, 1) ∧ r0.joiners = [] ∧ r0.flaggers.map (·.id) = [7] := by decide +kernel
example : (zstep (tickN 1 r0)).isSome = true ∧ atRest (tickN 13 r0) = false ∧ atRest (tickN 14 r0) = true ∧
    (tickN 14 r0).outs = [.start 8 [1], .fin 11 false, .start 19 [1], .fin 19 true, .waitRet 7 19] := by decide +kernel

end AiutiVerif.Buffer
