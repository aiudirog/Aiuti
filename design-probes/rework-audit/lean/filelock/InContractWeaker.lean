import AiutiVerif.FileLock.Props
open AiutiVerif.FileLock

/-! `InContract` excludes a release by a non-holder for every object; for a NON-reentrant object
(`threading.Lock`, which any thread may release) the model still agrees with the contract. -/

theorem release_held_nonreent (s : St) (force : Bool) (hd : Hold) (t : Nat) (hr : R s (some hd))
    (hq : (s.objs hd.obj).reentrant = false) :
    (release s hd.obj t force).2 = .unit ∧
    R (release s hd.obj t force).1 none ∧
    (∀ j, ((release s hd.obj t force).1.objs j).reentrant = (s.objs j).reentrant) := by
  obtain ⟨hdep, f, hfd, hcnt, hown, htd, hnr, hop, hhold, hothers⟩ := hr.held hd rfl
  have hnf := hr.noFaults
  have h1 : hd.depth = 1 := hnr hq
  have hrel : tlRelease { (s.objs hd.obj) with counter := 0, fd := none } t 1 =
      { (s.objs hd.obj) with counter := 0, fd := none, tlDepth := 0, tlOwner := none } := by
    simp [tlRelease, hown, htd, hq, h1]
  have hE : release s hd.obj t force = (({ s with ncall := s.ncall + 1 + 1, opened := [], holder := none, objs := upd s.objs hd.obj ({ (s.objs hd.obj) with counter := 0, fd := none, tlDepth := 0, tlOwner := none } : Obj) } : St), Res.unit) := by
    cases force <;> simp [release, hfd, hcnt, h1, osCall, hnf, hhold, hop, hrel]
  rw [hE]
  refine ⟨rfl, R.mk_free _ hnf (fun j => ?_) rfl rfl, upd_reentrant _ _ _ rfl⟩
  by_cases hj : j = hd.obj
  · subst hj; simp [Clean]
  · simpa [hj] using hothers j hj

/-- the weaker side condition: only a *reentrant* lock must be released by its holder -/
def InContract' (reent : Nat → Bool) (h : Option Hold) : Op → Prop
  | .acq _ _ _ => True
  | .rel i t _ => ∀ hd, h = some hd → hd.obj = i → reent i = true → hd.thr = t

theorem refines_weaker (s : St) (h : Option Hold) (op : Op) (hr : R s h)
    (hc : InContract' (fun i => (s.objs i).reentrant) h op) :
    (runOp s op).2 = (specOp (fun i => (s.objs i).reentrant) h op).2 ∧
    R (runOp s op).1 (specOp (fun i => (s.objs i).reentrant) h op).1 ∧
    (∀ j, ((runOp s op).1.objs j).reentrant = (s.objs j).reentrant) := by
  cases op with
  | acq i t m => exact C12_refines_contract s h (.acq i t m) hr trivial
  | rel i t force =>
    by_cases hi : ∃ hd, h = some hd ∧ hd.obj = i
    · obtain ⟨hd, rfl, rfl⟩ := hi
      cases hq : (s.objs hd.obj).reentrant with
      | true =>
        obtain rfl : hd.thr = t := hc hd rfl rfl hq
        exact C12_refines_contract s _ (.rel hd.obj hd.thr force) hr (fun hd' e _ => by cases e; rfl)
      | false =>
        have h1 : hd.depth = 1 := ((hr.held hd rfl).2.choose_spec.2.2.2.2.1) hq
        have := release_held_nonreent s force hd t hr hq
        simpa [runOp, specOp, h1] using this
    · exact C12_refines_contract s h (.rel i t force) hr (fun hd e1 e2 => absurd ⟨hd, e1, e2⟩ hi)
