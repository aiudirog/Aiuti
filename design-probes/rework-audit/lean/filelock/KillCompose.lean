import AiutiVerif.FileLock.SmallContract
open AiutiVerif.FileLock.Small

/-! What C13 asks ("the holder's process dies ⇒ the lock is free for the others") is true of the model but is no
theorem of the development: `C13_lock_not_left_behind` does not relate `s'.holder` to `s.holder`, so it cannot
feed the hypothesis `s.holder = none` of `C13_available_after_kill`.  The missing composite, proved here: -/
theorem killed_holder_frees (reent : Nat → Bool) (pt po : Nat → Nat) (ls : List Label) (s s' : St)
    (hs : accepts (init reent pt po) ls = some s) (t o p : Nat) (hh : (s.thr t).holds = some o)
    (hp : s.procT t = p) (hk : step s (.kill p) = some s') : s'.holder = none := by
  have hi := inv_of_accepts hs
  obtain ⟨i, e⟩ := hi.holdFd t o hh
  obtain ⟨f, hf⟩ := Option.isSome_iff_exists.mp i
  have h1 := hi.procFd o f hf
  have h2 := hi.procHold t o hh
  simp only [step, Option.some.injEq] at hk
  subst hk
  simp [e, hf, h1, ← h2, hp]

-- from the STATEMENT of C13_lock_not_left_behind alone this does not follow: a (fictitious) post-state whose holder is a
-- descriptor of some other process satisfies its conclusion
example (p : Nat) : ∃ (holder : Option Nat) (fdProc : Nat → Nat),
    (∀ f, holder = some f → fdProc f ≠ p) ∧ holder ≠ none :=
  ⟨some 0, fun _ => p + 1, by intro f _; simp, by simp⟩
