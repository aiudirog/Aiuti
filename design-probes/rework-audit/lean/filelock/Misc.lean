import AiutiVerif.FileLock.Props
open AiutiVerif.FileLock

-- C12_unheld_release_noop and release_unheld (Refine.lean) are one statement: the hypotheses are the same proposition
example (s : St) (i : Nat) : isLocked s i = false ↔ (s.objs i).fd = none := by simp [isLocked]
example (s : St) (i t : Nat) (force : Bool) (h : (s.objs i).fd = none) : release s i t force = (s, .unit) :=
  C12_unheld_release_noop s i t force (by simp [isLocked, h])

-- the docstring of C12_time_bounds names two bounds; the statement has only the larger one. The smaller one is true
-- of the model but is no part of the theorem:
example (s : St) (i t tau : Nat) (h : tlFree (s.objs i) t = false) :
    (acquire s i t (.timed tau)).1.now = s.now + tau := by
  rw [acquire_blocked s i t _ h]
-- and the statement does not say it: a hypothetical `now` of `s.now + tau + poll` in the in-process stage satisfies it too
example (s : St) (tau : Nat) : s.now + tau + poll ≤ s.now + tau + poll := Nat.le_refl _
