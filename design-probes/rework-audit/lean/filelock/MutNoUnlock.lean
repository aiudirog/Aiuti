import AiutiVerif.Core.ListLemmas
/-!
# Small-step model of `FileLock` for thread interleavings   (properties C02, C13)

Threads of any number of processes' worth of `FileLock` objects on **one lock file** take
atomic steps at the places where `acquire` / `release` touch shared state: the in-process
`Lock`/`RLock` of an object, `os.open`, `flock`, `os.close` (filelock.py:135-186, 206-243,
248-277 after the F3 / F9 repairs).  Object fields (`_lock_counter`, `_lock_file_fd`) are only
written while the object's thread lock is held, so their updates are folded into the adjacent
atomic step.  Non-determinism is entirely in *which label comes next*: `step` is a function
(deterministic acceptor), the same definition replays a trace recorded from the real code and
is what the theorems quantify over.

Kernel contract (assumed): `flock` succeeds iff no other open file description holds the lock;
unlocking or closing a description drops its lock; `kill` closes every description of the
dead threads' objects.

Clients are well-formed: a thread releases only what it holds and enters its critical section
only after an `acquire` that returned `True`.  No Mathlib.
-/
namespace MutNoUnlock.Small

def upd {α : Type} (f : Nat → α) (a : Nat) (b : α) : Nat → α := fun x => if x = a then b else f x

structure Obj where
  reentrant : Bool
  tlOwner : Option Nat
  tlDepth : Nat
  fd : Option Nat
  counter : Nat
  deriving DecidableEq, Repr

inductive Pc where
  | idle                                   -- not inside a FileLock call
  | acqOpen (o : Nat)                      -- inside acquire, thread lock held, about to `os.open`
  | acqLock (o fd : Nat)                   -- … about to `flock(fd)`
  | acqClose (o fd : Nat)                  -- … `flock` failed, about to `os.close(fd)`
  | acqDecide (o : Nat)                    -- … attempt failed: give up or sleep and retry
  | relUnlock (o fd lv : Nat)              -- inside release: `_lock_file_fd` cleared, about to unlock
  | relClose (o fd lv : Nat)               -- … about to close
  | relTl (o lv : Nat)                     -- … `lv` releases of the thread lock to go
  | dead                                   -- killed
  deriving DecidableEq, Repr

/-- The object a thread is operating on, while inside `acquire` (`1`) / `release`. -/
def Pc.acqObj : Pc → Option Nat
  | .acqOpen o | .acqLock o _ | .acqClose o _ | .acqDecide o => some o
  | _ => none
def Pc.relObj : Pc → Option Nat
  | .relUnlock o _ _ | .relClose o _ _ | .relTl o _ => some o
  | _ => none
/-- The descriptor a thread carries in a local variable. -/
def Pc.acqFd : Pc → Option Nat
  | .acqLock _ fd | .acqClose _ fd => some fd
  | _ => none
def Pc.relFd : Pc → Option Nat
  | .relUnlock _ fd _ | .relClose _ fd _ => some fd
  | _ => none
def Pc.relTlObj : Pc → Option Nat
  | .relTl o _ => some o
  | _ => none
/-- Thread-lock levels the thread still has to give back. -/
def Pc.pend : Pc → Nat
  | .acqOpen _ | .acqLock _ _ | .acqClose _ _ | .acqDecide _ => 1
  | .relUnlock _ _ lv | .relClose _ _ lv | .relTl _ lv => lv
  | _ => 0

structure Thread where
  pc : Pc
  holds : Option Nat      -- the object through which it holds the lock (acquire returned True)
  depth : Nat             -- how many times (reentrant)
  inCS : Bool             -- inside its critical section
  deriving DecidableEq, Repr

structure St where
  objs : Nat → Obj
  thr : Nat → Thread
  opened : List Nat
  holder : Option Nat
  nextFd : Nat
  procT : Nat → Nat        -- process of a thread (static)
  procO : Nat → Nat        -- process of a lock object (static)
  fdProc : Nat → Nat       -- process that opened a descriptor

inductive Label where
  | tlAcq (t o : Nat) (ok : Bool)      -- acquire(): `_thread_lock.acquire(...)` returned `ok`
  | osOpen (t : Nat) (ok : Bool)       -- `os.open` succeeded / raised OSError
  | flock (t : Nat) (ok : Bool)        -- `flock(fd, LOCK_EX[|LOCK_NB])` succeeded / raised
  | closeA (t : Nat)                   -- `os.close(fd)` after a failed flock
  | giveUp (t : Nat)                   -- clean-up and `return False`
  | retry (t : Nat)                    -- `time.sleep(poll_interval)`, loop
  | relBegin (t o : Nat) (force : Bool) -- release(): is_locked, counter, decision
  | unlock (t : Nat)                   -- `flock(fd, LOCK_UN)`
  | closeR (t : Nat)                   -- `os.close(fd)`; counter := 0
  | tlRel (t : Nat)                    -- one `_thread_lock.release()`
  | enter (t : Nat)                    -- the client's critical section
  | exit (t : Nat)
  | kill (p : Nat)                     -- process `p` dies (SIGKILL)
  deriving Repr

def tlFree (o : Obj) (t : Nat) : Bool :=
  o.tlOwner.isNone || (o.reentrant && o.tlOwner == some t)

def setPc (s : St) (t : Nat) (p : Pc) : St :=
  { s with thr := upd s.thr t { (s.thr t) with pc := p } }

def tlReleaseOnce (o : Obj) : Obj :=
  { o with tlDepth := o.tlDepth - 1, tlOwner := if o.tlDepth - 1 = 0 then none else o.tlOwner }

def step (s : St) : Label → Option St
  | .tlAcq t o ok =>
    let th := s.thr t
    let ob := s.objs o
    if th.pc = .idle ∧ th.inCS = false ∧ (th.holds = none ∨ th.holds = some o) ∧ s.procT t = s.procO o then
      if ok then
        if tlFree ob t then
          let ob' : Obj := { ob with tlOwner := some t, tlDepth := ob.tlDepth + 1, counter := ob.counter + 1 }
          if ob.fd.isSome then
            -- `if self.is_locked: return True` (nested acquire)
            some { s with objs := upd s.objs o ob',
                          thr := upd s.thr t { th with holds := some o, depth := th.depth + 1 } }
          else some { s with objs := upd s.objs o ob', thr := upd s.thr t { th with pc := .acqOpen o } }
        else none
      else if tlFree ob t then none else some s
    else none
  | .osOpen t ok =>
    match (s.thr t).pc with
    | .acqOpen o =>
      if ok then some { setPc s t (.acqLock o s.nextFd) with opened := s.opened ++ [s.nextFd], nextFd := s.nextFd + 1, fdProc := upd s.fdProc s.nextFd (s.procT t) }
      else some (setPc s t (.acqDecide o))
    | _ => none
  | .flock t ok =>
    match (s.thr t).pc with
    | .acqLock o fd =>
      if ok then
        if s.holder.isNone then
          some { s with holder := some fd, objs := upd s.objs o { (s.objs o) with fd := some fd },
                        thr := upd s.thr t { (s.thr t) with pc := .idle, holds := some o, depth := 1 } }
        else none
      else some (setPc s t (.acqClose o fd))
    | _ => none
  | .closeA t =>
    match (s.thr t).pc with
    | .acqClose o fd => some { setPc s t (.acqDecide o) with opened := s.opened.filter (· != fd) }
    | _ => none
  | .giveUp t =>
    match (s.thr t).pc with
    | .acqDecide o =>
      let ob := s.objs o
      some { setPc s t .idle with objs := upd s.objs o (tlReleaseOnce { ob with counter := ob.counter - 1 }) }
    | _ => none
  | .retry t =>
    match (s.thr t).pc with
    | .acqDecide o => some (setPc s t (.acqOpen o))
    | _ => none
  | .relBegin t o force =>
    let th := s.thr t
    let ob := s.objs o
    if th.pc = .idle ∧ th.inCS = false ∧ th.holds = some o then
      match ob.fd with
      | none => none
      | some fd =>
        let c := ob.counter - 1
        if c = 0 ∨ force then
          some { s with objs := upd s.objs o { ob with counter := c, fd := none },
                        thr := upd s.thr t { th with pc := .relUnlock o fd (1 + (if force then c else 0)),
                                                     holds := none, depth := 0 } }
        else
          some { s with objs := upd s.objs o { ob with counter := c },
                        thr := upd s.thr t { th with pc := .relTl o 1, depth := th.depth - 1 } }
    else none
  | .unlock t =>
    match (s.thr t).pc with
    | .relUnlock o fd lv => some { setPc s t (.relClose o fd lv) with holder := s.holder }
    | _ => none
  | .closeR t =>
    match (s.thr t).pc with
    | .relClose o fd lv =>
      some { setPc s t (.relTl o lv) with
             opened := s.opened.filter (· != fd),
             holder := s.holder,
             objs := upd s.objs o { (s.objs o) with counter := 0 } }
    | _ => none
  | .tlRel t =>
    match (s.thr t).pc with
    | .relTl o lv =>
      if lv = 0 then none
      else some { setPc s t (if lv = 1 then .idle else .relTl o (lv - 1)) with
                  objs := upd s.objs o (tlReleaseOnce (s.objs o)) }
    | _ => none
  | .enter t =>
    let th := s.thr t
    if th.pc = .idle ∧ th.holds.isSome ∧ th.inCS = false then
      some { s with thr := upd s.thr t { th with inCS := true } }
    else none
  | .exit t =>
    let th := s.thr t
    if th.inCS then some { s with thr := upd s.thr t { th with inCS := false } } else none
  | .kill p =>
    -- the kernel closes every description the dead process had open (dropping its lock); its
    -- threads stop for ever and its objects are gone
    some { s with
           opened := s.opened.filter (fun f => s.fdProc f != p),
           holder := match s.holder with
             | some f => if s.fdProc f = p then none else some f
             | none => none,
           thr := fun t => if s.procT t = p then { pc := .dead, holds := none, depth := 0, inCS := false } else s.thr t,
           objs := fun o => if s.procO o = p then { (s.objs o) with fd := none, counter := 0, tlOwner := none, tlDepth := 0 } else s.objs o }

def accepts : St → List Label → Option St
  | s, [] => some s
  | s, l :: ls => match step s l with
    | some s' => accepts s' ls
    | none => none

/-- Index of the first rejected label (for the driver). -/
def firstReject : St → List Label → Nat → Option Nat
  | _, [], _ => none
  | s, l :: ls, k => match step s l with
    | some s' => firstReject s' ls (k + 1)
    | none => some k

def init (reent : Nat → Bool) (procT procO : Nat → Nat) : St :=
  { objs := fun o => { reentrant := reent o, tlOwner := none, tlDepth := 0, fd := none, counter := 0 },
    thr := fun _ => { pc := .idle, holds := none, depth := 0, inCS := false },
    opened := [], holder := none, nextFd := 0, procT := procT, procO := procO, fdProc := fun _ => 0 }

end MutNoUnlock.Small
/-!
# Inductive invariant of the small-step FileLock model

Existential-free, one universally quantified clause per field.  The clauses are of two kinds: what
holds of one thread and one object (`ownJust` … `freeSt`, `csHold`, `procHold` … `procRel`,
`relTlCnt`), and the bookkeeping of descriptors (`fdLt` … `acqRel`, `procFd`, `procAcqFd`);
`SmallFrame.lean` takes them apart that way.
-/
namespace MutNoUnlock.Small

structure Inv (s : St) : Prop where
  /-- whoever owns an object's thread lock is holding through it or is inside acquire / release on it -/
  ownJust : ∀ o t, (s.objs o).tlOwner = some t →
    (s.thr t).holds = some o ∨ (s.thr t).pc.acqObj = some o ∨ (s.thr t).pc.relObj = some o
  /-- a holder owns the object's thread lock, the object's descriptor is the one that holds the OS lock -/
  holdOwn : ∀ t o, (s.thr t).holds = some o → (s.objs o).tlOwner = some t
  holdFd : ∀ t o, (s.thr t).holds = some o → (s.objs o).fd.isSome = true ∧ s.holder = (s.objs o).fd
  holdCnt : ∀ t o, (s.thr t).holds = some o → (s.objs o).counter = (s.thr t).depth ∧ 1 ≤ (s.thr t).depth
  holdDepth : ∀ t o, (s.thr t).holds = some o →
    (s.objs o).tlDepth = (s.thr t).depth + (if (s.thr t).pc.relObj = some o then (s.thr t).pc.pend else 0)
  holdPc : ∀ t o, (s.thr t).holds = some o → (s.thr t).pc = .idle ∨ (s.thr t).pc = .relTl o 1
  /-- inside acquire: owns the thread lock once, the object has no descriptor yet -/
  acqSt : ∀ t o, (s.thr t).pc.acqObj = some o →
    (s.objs o).tlOwner = some t ∧ (s.objs o).fd = none ∧ (s.objs o).counter = 1 ∧
    (s.thr t).holds = none ∧ (s.objs o).tlDepth = 1
  /-- inside release -/
  relSt : ∀ t o, (s.thr t).pc.relObj = some o → (s.objs o).tlOwner = some t ∧ 1 ≤ (s.thr t).pc.pend
  relFree : ∀ t o, (s.thr t).pc.relObj = some o → (s.thr t).holds = none →
    (s.objs o).fd = none ∧ (s.objs o).tlDepth = (s.thr t).pc.pend
  relKeep : ∀ t o, (s.thr t).pc.relObj = some o → (s.thr t).holds ≠ none → (s.thr t).holds = some o
  /-- an unowned object is pristine -/
  freeSt : ∀ o, (s.objs o).tlOwner = none →
    (s.objs o).counter = 0 ∧ (s.objs o).tlDepth = 0 ∧ (s.objs o).fd = none
  /-- descriptors: fresh, and no two slots (object field, acquire local, release local) share one -/
  fdLt : ∀ o f, (s.objs o).fd = some f → f < s.nextFd
  acqFdLt : ∀ t f, (s.thr t).pc.acqFd = some f → f < s.nextFd
  relFdLt : ∀ t f, (s.thr t).pc.relFd = some f → f < s.nextFd
  fdInj : ∀ o o' f, (s.objs o).fd = some f → (s.objs o').fd = some f → o = o'
  fdAcq : ∀ o t f, (s.objs o).fd = some f → (s.thr t).pc.acqFd ≠ some f
  fdRel : ∀ o t f, (s.objs o).fd = some f → (s.thr t).pc.relFd ≠ some f
  acqInj : ∀ t u f, (s.thr t).pc.acqFd = some f → (s.thr u).pc.acqFd = some f → t = u
  acqRel : ∀ t u f, (s.thr t).pc.acqFd = some f → (s.thr u).pc.relFd ≠ some f
  /-- only a holder is inside its critical section -/
  csHold : ∀ t, (s.thr t).inCS = true → (s.thr t).holds.isSome = true ∧ (s.thr t).pc = .idle
  /-- processes -/
  procHold : ∀ t o, (s.thr t).holds = some o → s.procT t = s.procO o
  procAcq : ∀ t o, (s.thr t).pc.acqObj = some o → s.procT t = s.procO o
  procRel : ∀ t o, (s.thr t).pc.relObj = some o → s.procT t = s.procO o
  procFd : ∀ o f, (s.objs o).fd = some f → s.fdProc f = s.procO o
  procAcqFd : ∀ t f, (s.thr t).pc.acqFd = some f → s.fdProc f = s.procT t
  /-- after `closeR` the counter is 0 (F9 repair) -/
  relTlCnt : ∀ t o, (s.thr t).pc.relTlObj = some o → (s.thr t).holds = none → (s.objs o).counter = 0

/-- Two holders' objects both have the descriptor that holds the OS lock, so they are one object, and its
thread lock has one owner. -/
theorem Inv.holder_unique {s : St} (h : Inv s) {t u o o' : Nat} (ht : (s.thr t).holds = some o)
    (hu : (s.thr u).holds = some o') : t = u := by
  obtain ⟨i, e⟩ := h.holdFd t o ht
  obtain ⟨f, hf⟩ := Option.isSome_iff_exists.mp i
  have e' := (h.holdFd u o' hu).2
  cases h.fdInj o o' f hf (by rw [← e', e, hf])
  exact Option.some.inj ((h.holdOwn t o ht).symm.trans (h.holdOwn u o hu))

theorem mutex_of_inv (s : St) (h : Inv s) (t u : Nat)
    (ht : (s.thr t).inCS = true) (hu : (s.thr u).inCS = true) : t = u := by
  obtain ⟨o, ho⟩ := Option.isSome_iff_exists.mp (h.csHold t ht).1
  obtain ⟨o', ho'⟩ := Option.isSome_iff_exists.mp (h.csHold u hu).1
  exact h.holder_unique ho ho'

theorem inv_init (reent : Nat → Bool) (pt po : Nat → Nat) : Inv (init reent pt po) := by
  constructor <;> simp [init, Pc.acqObj, Pc.relObj, Pc.acqFd, Pc.relFd, Pc.relTlObj]

end MutNoUnlock.Small
/-!
# The two layers of `Inv`, and its frame rule

`Inv` describes a partial matching: thread `t` is *attached* to object `o` (holds through it, or is
inside `acquire` / `release` on it) exactly when `t` owns `o`'s thread lock.  Its clauses are what
holds of one pair (`Link`, thirteen; the three on processes travel as `proc` in `Inv.of_link`) and the
bookkeeping of descriptors (`Descr`, ten).  Every step but `kill` rewrites one thread and at most the
object it is attached to, so nothing about another pair changes (`Inv.frame`): a label has to show the
`Link` of the new pair and where its descriptors come from (`Moved`).
-/
namespace MutNoUnlock.Small

@[simp] theorem upd_same {α : Type} (f : Nat → α) (a : Nat) (b : α) : upd f a b a = b := if_pos rfl
theorem upd_other {α : Type} (f : Nat → α) {a x : Nat} (b : α) (h : x ≠ a) : upd f a b x = f x := if_neg h

theorem Pc.relObj_of_relTlObj (p : Pc) (o : Nat) (h : p.relTlObj = some o) : p.relObj = some o := by
  cases p <;> simp_all [Pc.relTlObj, Pc.relObj]
theorem Pc.relObj_of_acqObj (p : Pc) (o : Nat) (h : p.acqObj = some o) : p.relObj = none := by
  cases p <;> simp_all [Pc.acqObj, Pc.relObj]

def Thread.att (th : Thread) (o : Nat) : Prop :=
  th.holds = some o ∨ th.pc.acqObj = some o ∨ th.pc.relObj = some o

/-- `hd`: the descriptor that holds the OS lock. -/
structure Link (hd : Option Nat) (t : Nat) (th : Thread) (o : Nat) (ob : Obj) : Prop where
  att : ob.tlOwner = some t → th.att o
  own : th.att o → ob.tlOwner = some t
  hold : th.holds = some o → ob.fd.isSome = true ∧ hd = ob.fd ∧ ob.counter = th.depth ∧ 1 ≤ th.depth ∧
    ob.tlDepth = th.depth + (if th.pc.relObj = some o then th.pc.pend else 0) ∧
    (th.pc = .idle ∨ th.pc = .relTl o 1)
  acq : th.pc.acqObj = some o → ob.fd = none ∧ ob.counter = 1 ∧ th.holds = none ∧ ob.tlDepth = 1
  rel : th.pc.relObj = some o → 1 ≤ th.pc.pend ∧ (th.holds ≠ none → th.holds = some o) ∧
    (th.holds = none → ob.fd = none ∧ ob.tlDepth = th.pc.pend ∧ (th.pc.relTlObj = some o → ob.counter = 0))
  free : ob.tlOwner = none → ob.counter = 0 ∧ ob.tlDepth = 0 ∧ ob.fd = none
  cs : th.inCS = true → th.holds.isSome = true ∧ th.pc = .idle

theorem Link.of_not_att {hd : Option Nat} {t o : Nat} {th : Thread} {ob : Obj} (a : ¬ th.att o)
    (own : ob.tlOwner ≠ some t) (free : ob.tlOwner = none → ob.counter = 0 ∧ ob.tlDepth = 0 ∧ ob.fd = none)
    (cs : th.inCS = true → th.holds.isSome = true ∧ th.pc = .idle) : Link hd t th o ob :=
  ⟨fun e => absurd e own, fun e => absurd e a, fun e => absurd (.inl e) a, fun e => absurd (.inr (.inl e)) a,
    fun e => absurd (.inr (.inr e)) a, free, cs⟩

structure Descr (s : St) : Prop where
  fdLt : ∀ o f, (s.objs o).fd = some f → f < s.nextFd
  acqFdLt : ∀ t f, (s.thr t).pc.acqFd = some f → f < s.nextFd
  relFdLt : ∀ t f, (s.thr t).pc.relFd = some f → f < s.nextFd
  fdInj : ∀ o o' f, (s.objs o).fd = some f → (s.objs o').fd = some f → o = o'
  fdAcq : ∀ o t f, (s.objs o).fd = some f → (s.thr t).pc.acqFd ≠ some f
  fdRel : ∀ o t f, (s.objs o).fd = some f → (s.thr t).pc.relFd ≠ some f
  acqInj : ∀ t u f, (s.thr t).pc.acqFd = some f → (s.thr u).pc.acqFd = some f → t = u
  acqRel : ∀ t u f, (s.thr t).pc.acqFd = some f → (s.thr u).pc.relFd ≠ some f
  procFd : ∀ o f, (s.objs o).fd = some f → s.fdProc f = s.procO o
  procAcqFd : ∀ t f, (s.thr t).pc.acqFd = some f → s.fdProc f = s.procT t

variable {s s' : St}

theorem Inv.link (h : Inv s) (t o : Nat) : Link s.holder t (s.thr t) o (s.objs o) where
  att := h.ownJust o t
  own a := a.elim (h.holdOwn t o) fun a => a.elim (fun a => (h.acqSt t o a).1) fun a => (h.relSt t o a).1
  hold hh := ⟨(h.holdFd t o hh).1, (h.holdFd t o hh).2, (h.holdCnt t o hh).1, (h.holdCnt t o hh).2,
    h.holdDepth t o hh, h.holdPc t o hh⟩
  acq ha := (h.acqSt t o ha).2
  rel hr := ⟨(h.relSt t o hr).2, h.relKeep t o hr, fun hn => ⟨(h.relFree t o hr hn).1, (h.relFree t o hr hn).2,
    fun hl => h.relTlCnt t o hl hn⟩⟩
  free := h.freeSt o
  cs := h.csHold t

theorem Inv.descr (h : Inv s) : Descr s := { h with }

theorem Inv.proc_of_att (h : Inv s) {t o : Nat} (a : (s.thr t).att o) : s.procT t = s.procO o :=
  a.elim (h.procHold t o) fun a => a.elim (h.procAcq t o) (h.procRel t o)

theorem Inv.of_link (link : ∀ t o, Link s.holder t (s.thr t) o (s.objs o))
    (proc : ∀ t o, (s.thr t).att o → s.procT t = s.procO o) (d : Descr s) : Inv s :=
  { d with
    ownJust := fun o t => (link t o).att
    holdOwn := fun t o a => (link t o).own (.inl a)
    holdFd := fun t o a => have l := (link t o).hold a; ⟨l.1, l.2.1⟩
    holdCnt := fun t o a => have l := (link t o).hold a; ⟨l.2.2.1, l.2.2.2.1⟩
    holdDepth := fun t o a => ((link t o).hold a).2.2.2.2.1
    holdPc := fun t o a => ((link t o).hold a).2.2.2.2.2
    acqSt := fun t o a => ⟨(link t o).own (.inr (.inl a)), (link t o).acq a⟩
    relSt := fun t o a => ⟨(link t o).own (.inr (.inr a)), ((link t o).rel a).1⟩
    relFree := fun t o a hn => have l := ((link t o).rel a).2.2 hn; ⟨l.1, l.2.1⟩
    relKeep := fun t o a => ((link t o).rel a).2.1
    relTlCnt := fun t o a hn => (((link t o).rel (Pc.relObj_of_relTlObj _ _ a)).2.2 hn).2.2 a
    procHold := fun t o a => proc t o (.inl a)
    procAcq := fun t o a => proc t o (.inr (.inl a))
    procRel := fun t o a => proc t o (.inr (.inr a))
    -- `free` speaks of the object only and `cs` of the thread only: any index does for the other
    freeSt := fun o => (link 0 o).free
    csHold := fun t => (link t 0).cs }

theorem Inv.att_unique (h : Inv s) {t o o' : Nat} (a : (s.thr t).att o) (a' : (s.thr t).att o') : o = o' := by
  have l := h.link t o
  have l' := h.link t o'
  rcases a with a | a | a <;> rcases a' with a' | a' | a'
  · simpa [a] using a'
  · simp [(l'.acq a').2.2.1] at a
  · have := (l'.rel a').2.1; simp_all
  · simp [(l.acq a).2.2.1] at a'
  · simpa [a] using a'
  · simp [Pc.relObj_of_acqObj _ _ a] at a'
  · have := (l.rel a).2.1; simp_all
  · simp [Pc.relObj_of_acqObj _ _ a'] at a
  · simpa [a] using a'

/-- **Descriptors only move**: from `t`'s `acquire` into its object `o`, from `o` into `t`'s `release`,
leaving the slot behind empty; or a new one appears in `t`'s `acquire`. -/
theorem Descr.moved (d : Descr s) (t o : Nat) (next : s.nextFd ≤ s'.nextFd)
    (proc : ∀ f, f < s.nextFd → s'.fdProc f = s.fdProc f) (hpT : s'.procT = s.procT) (hpO : s'.procO = s.procO)
    (fd : ∀ o' f, (s'.objs o').fd = some f → (s.objs o').fd = some f ∨
      (o' = o ∧ (s.thr t).pc.acqFd = some f ∧ (s'.thr t).pc.acqFd = none ∧ s.procT t = s.procO o))
    (acq : ∀ u f, (s'.thr u).pc.acqFd = some f → (s.thr u).pc.acqFd = some f ∨
      (u = t ∧ s.nextFd ≤ f ∧ f < s'.nextFd ∧ s'.fdProc f = s.procT t))
    (rel : ∀ u f, (s'.thr u).pc.relFd = some f → (s.thr u).pc.relFd = some f ∨
      (u = t ∧ (s.objs o).fd = some f ∧ (s'.objs o).fd = none)) : Descr s' := by
  have := d.fdLt; have := d.acqFdLt; have := d.relFdLt
  constructor
  · grind
  · grind
  · grind
  · have := d.fdInj; have := d.fdAcq; grind
  · have := d.fdAcq; have := d.acqInj; grind
  · have := d.fdRel; have := d.fdInj; have := d.acqRel; grind
  · have := d.acqInj; grind
  · have := d.acqRel; have := d.fdAcq; grind
  · have := d.procFd; have := d.procAcqFd; grind
  · have := d.procAcqFd; grind

/-- the hypotheses of `Descr.moved` for a step that writes the one pair `t`, `o` -/
structure Moved (s : St) (t o : Nat) (th' : Thread) (ob' : Obj) (nf' : Nat) (fp' : Nat → Nat) : Prop where
  next : s.nextFd ≤ nf'
  proc : ∀ f, f < s.nextFd → fp' f = s.fdProc f
  fd : ∀ f, ob'.fd = some f → (s.objs o).fd = some f ∨ ((s.thr t).pc.acqFd = some f ∧ th'.pc.acqFd = none)
  acq : ∀ f, th'.pc.acqFd = some f →
    (s.thr t).pc.acqFd = some f ∨ (s.nextFd ≤ f ∧ f < nf' ∧ fp' f = s.procT t)
  rel : ∀ f, th'.pc.relFd = some f → (s.thr t).pc.relFd = some f ∨ ((s.objs o).fd = some f ∧ ob'.fd = none)

/-- **Frame rule.**  `t` may touch `o` if it owns `o`'s thread lock, or `o` is free and `t` unattached
(`may`).  A step that rewrites only these two and the globals keeps `Inv` if the new pair is linked and
still exclusive (`only`, `own`), the OS lock does not change under another holder (`hhd`), and
descriptors only move (`mv`). -/
theorem Inv.frame (h : Inv s) {t o : Nat}
    (hthr : ∀ u, u ≠ t → s'.thr u = s.thr u) (hobj : ∀ o', o' ≠ o → s'.objs o' = s.objs o')
    (hpT : s'.procT = s.procT) (hpO : s'.procO = s.procO)
    (may : (s.objs o).tlOwner = some t ∨
      ((s.objs o).tlOwner = none ∧ (∀ o', ¬ (s.thr t).att o') ∧ s.procT t = s.procO o))
    (link : Link s'.holder t (s'.thr t) o (s'.objs o))
    (only : ∀ o', (s'.thr t).att o' → o' = o) (own : ∀ u, (s'.objs o).tlOwner = some u → u = t)
    (hhd : ∀ u o', u ≠ t → (s.thr u).holds = some o' → s'.holder = s.holder)
    (mv : Moved s t o (s'.thr t) (s'.objs o) s'.nextFd s'.fdProc) : Inv s' := by
  -- nobody else is attached to `o`, and `t` to nothing else
  have ex : ∀ u, (s.thr u).att o → u = t := fun u a => by
    have := (h.link u o).own a
    rcases may with m | m <;> simp_all
  have ex' : ∀ o', (s.thr t).att o' → o' = o := fun o' a => by
    rcases may with m | m
    · exact h.att_unique a (h.ownJust o t m)
    · exact absurd a (m.2.1 o')
  have pr : s.procT t = s.procO o := may.elim (fun m => h.proc_of_att (h.ownJust o t m)) (·.2.2)
  refine .of_link ?_ ?_ (h.descr.moved t o mv.next mv.proc hpT hpO ?_ ?_ ?_)
  · intro u o'
    by_cases hu : u = t <;> by_cases ho : o' = o
    · subst hu ho; exact link
    · subst hu
      rw [hobj o' ho]
      exact .of_not_att (fun a => ho (only o' a)) (fun e => ho (ex' o' ((h.link u o').att e)))
        (h.link u o').free link.cs
    · subst ho
      rw [hthr u hu]
      exact .of_not_att (fun a => hu (ex u a)) (fun e => hu (own u e)) link.free (h.link u o').cs
    · rw [hthr u hu, hobj o' ho]
      have l := h.link u o'
      exact ⟨l.att, l.own, fun hh => hhd u o' hu hh ▸ l.hold hh, l.acq, l.rel, l.free, l.cs⟩
  · intro u o' a
    rw [hpT, hpO]
    by_cases hu : u = t
    · subst hu; exact only o' a ▸ pr
    · exact h.proc_of_att (hthr u hu ▸ a)
  · intro o' f e
    by_cases ho : o' = o
    · subst ho; exact (mv.fd f e).imp id fun m => ⟨rfl, m.1, m.2, pr⟩
    · exact .inl (hobj o' ho ▸ e)
  · intro u f e
    by_cases hu : u = t
    · subst hu; exact (mv.acq f e).imp id fun m => ⟨rfl, m⟩
    · exact .inl (hthr u hu ▸ e)
  · intro u f e
    by_cases hu : u = t
    · subst hu; exact (mv.rel f e).imp id fun m => ⟨rfl, m⟩
    · exact .inl (hthr u hu ▸ e)

theorem Inv.frame_upd (h : Inv s) {t o : Nat} {th' : Thread} {ob' : Obj} {op' : List Nat} {hd' : Option Nat}
    {nf' : Nat} {fp' : Nat → Nat}
    (may : (s.objs o).tlOwner = some t ∨
      ((s.objs o).tlOwner = none ∧ (∀ o', ¬ (s.thr t).att o') ∧ s.procT t = s.procO o))
    (link : Link hd' t th' o ob') (only : ∀ o', th'.att o' → o' = o) (own : ∀ u, ob'.tlOwner = some u → u = t)
    (hhd : ∀ u o', u ≠ t → (s.thr u).holds = some o' → hd' = s.holder)
    (mv : Moved s t o th' ob' nf' fp') :
    Inv { s with objs := upd s.objs o ob', thr := upd s.thr t th', opened := op', holder := hd',
                 nextFd := nf', fdProc := fp' } :=
  h.frame (t := t) (o := o) (fun _ hu => upd_other _ _ hu) (fun _ ho => upd_other _ _ ho) rfl rfl may
    (by simpa using link) (by simpa using only) (by simpa using own) hhd (by simpa using mv)

theorem Inv.frame_thr (h : Inv s) {t : Nat} (o : Nat) {th' : Thread} {op' : List Nat} {hd' : Option Nat}
    {nf' : Nat} {fp' : Nat → Nat}
    (a : (s.thr t).att o)
    (link : Link hd' t th' o (s.objs o)) (only : ∀ o', th'.att o' → o' = o)
    (hhd : ∀ u o', u ≠ t → (s.thr u).holds = some o' → hd' = s.holder)
    (mv : Moved s t o th' (s.objs o) nf' fp') :
    Inv { s with thr := upd s.thr t th', opened := op', holder := hd', nextFd := nf', fdProc := fp' } :=
  have own := (h.link t o).own a
  h.frame (t := t) (o := o) (fun _ hu => upd_other _ _ hu) (fun _ _ => rfl) rfl rfl (.inl own)
    (by simpa using link) (by simpa using only) (fun u e => by simpa [own] using e.symm) hhd (by simpa using mv)

end MutNoUnlock.Small
/-!
# Preservation of `Inv` by every label of the small-step FileLock model

Each label but `kill` is an instance of the frame rule: the proof reads off `Inv` what holds of the
stepping thread and its object, and the `Link` of the new pair follows by evaluating the program-counter
classifiers.
-/
namespace MutNoUnlock.Small

attribute [local simp] Pc.acqObj Pc.relObj Pc.acqFd Pc.relFd Pc.relTlObj Pc.pend Thread.att

theorem tlFree_cases (ob : Obj) (t : Nat) (h : tlFree ob t = true) :
    ob.tlOwner = none ∨ (ob.reentrant = true ∧ ob.tlOwner = some t) := by
  unfold tlFree at h
  cases ho : ob.tlOwner with
  | none => left; rfl
  | some u => right; simp [ho] at h; exact ⟨h.1, by rw [h.2]⟩

theorem tlFree_false (ob : Obj) (t : Nat) (h : ¬ tlFree ob t = true) : ob.tlOwner ≠ none := by
  intro hn; apply h; simp [tlFree, hn]

variable {s : St}

theorem Inv.inCS_false (h : Inv s) (t : Nat) (hpc : (s.thr t).pc ≠ .idle) : (s.thr t).inCS = false := by
  cases e : (s.thr t).inCS
  · rfl
  · exact absurd (h.csHold t e).2 hpc

/-- `relTl _ 1` is the one point of `release` at which a thread may still hold (a nested release). -/
theorem Inv.rel_full (h : Inv s) {t o : Nat} (hr : (s.thr t).pc.relObj = some o)
    (h1 : ∀ o, (s.thr t).pc ≠ .relTl o 1) :
    (s.objs o).tlOwner = some t ∧ 1 ≤ (s.thr t).pc.pend ∧ (s.thr t).holds = none ∧ (s.objs o).fd = none ∧
      (s.objs o).tlDepth = (s.thr t).pc.pend ∧ (s.thr t).inCS = false := by
  have hi : (s.thr t).pc ≠ .idle := fun e => by simp [e] at hr
  have hn : (s.thr t).holds = none := by
    cases e : (s.thr t).holds with
    | none => rfl
    | some o => exact ((h.holdPc t o e).elim hi (h1 o)).elim
  exact ⟨(h.relSt t o hr).1, (h.relSt t o hr).2, hn, (h.relFree t o hr hn).1, (h.relFree t o hr hn).2,
    h.inCS_false t hi⟩

theorem Inv.holder_of_relFd (h : Inv s) {t fd : Nat} (hfd : (s.thr t).pc.relFd = some fd) (u o' : Nat)
    (_ : u ≠ t) (hu : (s.thr u).holds = some o') : (if s.holder = some fd then none else s.holder) = s.holder :=
  if_neg fun e => h.fdRel o' t fd ((h.holdFd u o' hu).2 ▸ e) hfd

/-- A move inside `acquire` on `o`: the pair stays as `acqSt` describes it whatever `p'` is; only the
origin of the descriptor that `p'` carries is to be shown. -/
theorem Inv.acq_move (h : Inv s) {t o : Nat} {p' : Pc} {op' : List Nat} {nf' : Nat} {fp' : Nat → Nat}
    (ha : (s.thr t).pc.acqObj = some o) (ha' : p'.acqObj = some o)
    (next : s.nextFd ≤ nf') (proc : ∀ f, f < s.nextFd → fp' f = s.fdProc f)
    (hfd : ∀ f, p'.acqFd = some f →
      (s.thr t).pc.acqFd = some f ∨ (s.nextFd ≤ f ∧ f < nf' ∧ fp' f = s.procT t)) :
    Inv { setPc s t p' with opened := op', nextFd := nf', fdProc := fp' } := by
  obtain ⟨own, fdn, cnt, hn, dep⟩ := h.acqSt t o ha
  have cs := h.inCS_false t (fun e => by simp [e] at ha)
  have hr := Pc.relObj_of_acqObj p' o ha'
  have hrf : p'.relFd = none := by cases p' <;> simp_all
  refine h.frame_thr o (.inr (.inl ha))
    ⟨fun _ => .inr (.inl ha'), fun _ => own, fun e => (nomatch hn.symm.trans e), fun _ => ⟨fdn, cnt, hn, dep⟩,
      fun e => (nomatch hr.symm.trans e), fun e => (nomatch own.symm.trans e), fun e => (nomatch cs.symm.trans e)⟩
    ?_ (fun _ _ _ _ => rfl) ⟨next, proc, fun f e => .inl e, hfd, fun f e => (nomatch hrf.symm.trans e)⟩
  rintro o' (e | e | e)
  · exact (nomatch hn.symm.trans e)
  · exact Option.some.inj (e.symm.trans ha')
  · exact (nomatch hr.symm.trans e)

theorem inv_kill (s s' : St) (p : Nat) (h : Inv s) (hs : step s (.kill p) = some s') : Inv s' := by
  simp only [step, Option.some.injEq] at hs
  subst hs
  -- no descriptor moves on `kill`: the pair handed to `Descr.moved` is never looked at
  refine .of_link ?_ ?_ (h.descr.moved 0 0 (Nat.le_refl _) (fun _ _ => rfl) rfl rfl ?_ ?_ ?_)
  · intro u o
    have l := h.link u o
    -- an attached pair lives in one process: it dies as a whole or not at all
    have pr := fun a => h.proc_of_att (t := u) (o := o) a
    simp only []
    by_cases hu : s.procT u = p <;> by_cases ho : s.procO o = p <;> simp only [hu, ho, if_true, if_false]
    · exact .of_not_att (by simp) (by simp) (by simp) (by simp)
    · exact .of_not_att (by simp) (fun e => ho (pr (l.att e) ▸ hu)) l.free (by simp)
    · exact .of_not_att (fun a => hu (pr a ▸ ho)) (by simp) (by simp) l.cs
    · refine ⟨l.att, l.own, fun hh => ?_, l.acq, l.rel, l.free, l.cs⟩
      -- the descriptor that holds the OS lock is that of `o`, which survives
      obtain ⟨i, e, r⟩ := l.hold hh
      obtain ⟨f, hf⟩ := Option.isSome_iff_exists.mp i
      refine ⟨i, ?_, r⟩
      rw [e, hf]
      simp [h.procFd o f hf, ho]
  · intro u o a
    by_cases hu : s.procT u = p
    · simp [hu] at a
    · simp only [hu, if_false] at a
      exact h.proc_of_att a
  · intro o f e
    by_cases ho : s.procO o = p
    · simp [ho] at e
    · exact .inl (by simpa [ho] using e)
  · intro u f e
    by_cases hu : s.procT u = p
    · simp [hu] at e
    · exact .inl (by simpa [hu] using e)
  · intro u f e
    by_cases hu : s.procT u = p
    · simp [hu] at e
    · exact .inl (by simpa [hu] using e)

theorem inv_step (s s' : St) (l : Label) (h : Inv s) (hs : step s l = some s') : Inv s' := by
  cases l
  case kill p => exact inv_kill s s' p h hs
  all_goals simp only [step, setPc, tlReleaseOnce] at hs
  case tlAcq t o ok =>
    split at hs
    · rename_i hg
      obtain ⟨hpc, hcs, hh, hp⟩ := hg
      have l := h.link t o
      split at hs
      · split at hs
        · rename_i hfree
          split at hs <;> (rename_i hfd; cases hs)
          · -- nested acquire: `o` has a descriptor, so it is not free: `t` owns it and holds through it
            have own : (s.objs o).tlOwner = some t := by
              rcases tlFree_cases _ _ hfree with e | e
              · simp [(l.free e).2.2] at hfd
              · exact e.2
            have hh : (s.thr t).holds = some o := by simpa [hpc] using l.att own
            obtain ⟨-, hdEq, cnt, d1, dep, -⟩ := l.hold hh
            simp [hpc] at dep
            exact h.frame_upd (.inl own) (by constructor <;> simp [*]) (by simp [*]) (by simp)
              (fun _ _ _ _ => rfl) (by constructor <;> simp [*])
          · -- first acquire: `o` has no descriptor, so `t` does not hold through it: `o` is free
            have hn : (s.thr t).holds = none := by
              rcases hh with e | e
              · exact e
              · simp [(l.hold e).1] at hfd
            have own : (s.objs o).tlOwner = none := by
              rcases tlFree_cases _ _ hfree with e | e
              · exact e
              · simpa [hpc, hn] using l.att e.2
            obtain ⟨cnt, dep, fdn⟩ := l.free own
            exact h.frame_upd (.inr ⟨own, by simp [*], hp⟩) (by constructor <;> simp [*]) (by simp [*]) (by simp)
              (fun _ _ _ _ => rfl) (by constructor <;> simp [*])
        · cases hs
      · split at hs <;> cases hs
        exact h
    · cases hs
  case osOpen t ok =>
    split at hs
    next o hpc =>
      have ha : (s.thr t).pc.acqObj = some o := by simp [hpc]
      split at hs <;> cases hs
      · exact h.acq_move ha rfl (Nat.le_succ _) (fun f hf => upd_other _ _ (Nat.ne_of_lt hf))
          (fun f e => .inr (by simp at e; subst e; simp))
      · exact h.acq_move ha rfl (Nat.le_refl _) (fun _ _ => rfl) (by simp)
    next => cases hs
  case flock t ok =>
    split at hs
    next o fd hpc =>
      split at hs
      · split at hs <;> cases hs
        rename_i hnone
        have hnone : s.holder = none := by simpa using hnone
        obtain ⟨own, fdn, cnt, hn, dep⟩ := h.acqSt t o (by simp [hpc])
        have cs := h.inCS_false t (by simp [hpc])
        refine h.frame_upd (.inl own) (by constructor <;> simp [*]) (by simp [*]) (by simp [*]) ?_
          (by constructor <;> simp [*])
        -- nobody else holds, since nothing holds the OS lock
        intro u o' _ hu
        obtain ⟨i, e⟩ := h.holdFd u o' hu
        rw [← e, hnone] at i; cases i
      · cases hs
        exact h.acq_move (by simp [hpc]) rfl (Nat.le_refl _) (fun _ _ => rfl) (by simp [hpc])
    next => cases hs
  case closeA t =>
    split at hs <;> cases hs
    next o fd hpc => exact h.acq_move (by simp [hpc]) rfl (Nat.le_refl _) (fun _ _ => rfl) (by simp)
  case retry t =>
    split at hs <;> cases hs
    next o hpc => exact h.acq_move (by simp [hpc]) rfl (Nat.le_refl _) (fun _ _ => rfl) (by simp)
  case giveUp t =>
    split at hs <;> cases hs
    next o hpc =>
      obtain ⟨own, fdn, cnt, hn, dep⟩ := h.acqSt t o (by simp [hpc])
      have cs := h.inCS_false t (by simp [hpc])
      -- the one level of the thread lock goes back: the pair comes apart, and `o` is as new
      exact h.frame_upd (.inl own) (by constructor <;> simp [*]) (by simp [*]) (by simp [*])
        (fun _ _ _ _ => rfl) (by constructor <;> simp [*])
  case relBegin t o force =>
    split at hs
    · rename_i hg
      obtain ⟨hpc, hcs, hh⟩ := hg
      have own := h.holdOwn t o hh
      obtain ⟨cnt, d1⟩ := h.holdCnt t o hh
      have dep := h.holdDepth t o hh
      simp [hpc] at dep
      split at hs
      · cases hs
      · rename_i fd hfd
        split at hs <;> (rename_i hc; cases hs)
        · -- last level, or forced: the descriptor goes to the local variable, every level is to be given back
          refine h.frame_upd (.inl own) ?_ (by simp [*]) (by simp [*]) (fun _ _ _ _ => rfl)
            (by constructor <;> simp [*])
          constructor <;> simp [*]
          cases force <;> simp at hc ⊢ <;> omega
        · -- a nested release: `t` goes on holding, one level deeper than it will
          refine h.frame_upd (.inl own) ?_ (by simp [*]) (by simp [*]) (fun _ _ _ _ => rfl)
            (by constructor <;> simp [*])
          have hfd := h.holdFd t o hh
          constructor <;> simp [*]
          omega
    · cases hs
  case unlock t =>
    split at hs <;> cases hs
    next o fd lv hpc =>
      obtain ⟨own, lv1, hn, fdn, dep, cs⟩ := h.rel_full (t := t) (o := o) (by simp [hpc]) (by simp [hpc])
      simp [hpc] at lv1 dep
      exact h.frame_thr o (.inr (.inr (by simp [hpc]))) (by constructor <;> simp [*]) (by simp [*])
        (fun _ _ _ _ => rfl) (by constructor <;> simp [*])
  case closeR t =>
    split at hs <;> cases hs
    next o fd lv hpc =>
      obtain ⟨own, lv1, hn, fdn, dep, cs⟩ := h.rel_full (t := t) (o := o) (by simp [hpc]) (by simp [hpc])
      simp [hpc] at lv1 dep
      exact h.frame_upd (.inl own) (by constructor <;> simp [*]) (by simp [*]) (by simp [*])
        (fun _ _ _ _ => rfl) (by constructor <;> simp [*])
  case tlRel t =>
    split at hs
    next o lv hpc =>
      obtain ⟨own, lv1⟩ := h.relSt t o (by simp [hpc])
      have cs := h.inCS_false t (by simp [hpc])
      simp [hpc] at lv1
      split at hs <;> cases hs
      by_cases hn : (s.thr t).holds = none
      · -- full release: the object is clean already, `lv` levels are left
        obtain ⟨fdn, dep⟩ := h.relFree t o (by simp [hpc]) hn
        have cnt := h.relTlCnt t o (by simp [hpc]) hn
        simp [hpc] at dep
        by_cases h1 : lv = 1
        · subst h1
          exact h.frame_upd (.inl own) (by constructor <;> simp [*]) (by simp [*]) (by simp [*])
            (fun _ _ _ _ => rfl) (by constructor <;> simp [*])
        · have : lv - 1 ≠ 0 := by omega
          refine h.frame_upd (.inl own) ?_ (by simp [*]) (by simp [*]) (fun _ _ _ _ => rfl)
            (by constructor <;> simp [*])
          constructor <;> simp [*]
          omega
      · -- a nested release: one level, and `t` goes on holding
        have hh := h.relKeep t o (by simp [hpc]) hn
        have hp := h.holdPc t o hh
        simp [hpc] at hp
        subst hp
        obtain ⟨cnt, d1⟩ := h.holdCnt t o hh
        have hfd := h.holdFd t o hh
        have dep := h.holdDepth t o hh
        simp [hpc] at dep
        have : (s.thr t).depth ≠ 0 := by omega
        exact h.frame_upd (.inl own) (by constructor <;> simp [*]) (by simp [*]) (by simp [*])
          (fun _ _ _ _ => rfl) (by constructor <;> simp [*])
    next => cases hs
  -- entering and leaving the critical section: only the last clause of the pair's `Link` is new
  case enter t =>
    split at hs <;> cases hs
    rename_i hg
    obtain ⟨hpc, hh, -⟩ := hg
    obtain ⟨o, ho⟩ := Option.isSome_iff_exists.mp hh
    have l := h.link t o
    exact h.frame_thr o (.inl ho) ⟨l.att, l.own, l.hold, l.acq, l.rel, l.free, fun _ => ⟨hh, hpc⟩⟩ (by simp [*])
      (fun _ _ _ _ => rfl) (by constructor <;> simp [*])
  case exit t =>
    split at hs <;> cases hs
    rename_i hg
    obtain ⟨hh, hpc⟩ := h.csHold t hg
    obtain ⟨o, ho⟩ := Option.isSome_iff_exists.mp hh
    have l := h.link t o
    exact h.frame_thr o (.inl ho) ⟨l.att, l.own, l.hold, l.acq, l.rel, l.free, by simp⟩ (by simp [*])
      (fun _ _ _ _ => rfl) (by constructor <;> simp [*])

end MutNoUnlock.Small
/-!
# C02 / C13 — mutual exclusion under every interleaving, also across a crash

Stated about the small-step model `FileLock/Small.lean`: any number of processes, threads and
lock objects (reentrant or not) on one lock file; blocking, non-blocking and timed acquires;
plain and forced releases; `SIGKILL` of any process at any point.  `accepts` quantifies over
**all** label sequences (= all interleavings at the granularity of the shared accesses).
-/
namespace MutNoUnlock.Small

theorem inv_reachable (ls : List Label) : ∀ (s s' : St), Inv s → accepts s ls = some s' → Inv s' :=
  AiutiVerif.accepts_induct (fun _ => rfl) (fun s l ls => by rw [accepts]; cases step s l <;> rfl) inv_step ls

theorem inv_of_accepts {reent : Nat → Bool} {pt po : Nat → Nat} {ls : List Label} {s : St}
    (hs : accepts (init reent pt po) ls = some s) : Inv s :=
  inv_reachable ls _ s (inv_init reent pt po) hs

/-- **C02.** At most one holder is inside a FileLock-protected section for the lock file at any
time — threads sharing one object, different objects, different processes — also in interleavings
with crashes (`kill`). -/
theorem C02_mutex (reent : Nat → Bool) (pt po : Nat → Nat) (ls : List Label) (s : St)
    (hs : accepts (init reent pt po) ls = some s) (t u : Nat)
    (ht : (s.thr t).inCS = true) (hu : (s.thr u).inCS = true) : t = u :=
  mutex_of_inv s (inv_of_accepts hs) t u ht hu

/-- A contender whose acquire reported success is *the* holder until it releases: its object
owns the in-process lock for it, and that object's descriptor is the one holding the OS lock. -/
theorem C02_success_is_hold (reent : Nat → Bool) (pt po : Nat → Nat) (ls : List Label) (s : St)
    (hs : accepts (init reent pt po) ls = some s) (t o : Nat) (hh : (s.thr t).holds = some o) :
    (s.objs o).tlOwner = some t ∧ (s.objs o).fd.isSome = true ∧ s.holder = (s.objs o).fd ∧
    ∀ u o', (s.thr u).holds = some o' → u = t := by
  have hi := inv_of_accepts hs
  exact ⟨hi.holdOwn t o hh, (hi.holdFd t o hh).1, (hi.holdFd t o hh).2, fun u o' hu => hi.holder_unique hu hh⟩

/-- **C13.** The OS lock is never left with a dead process.  (That killing a process at any point preserves
the invariant, hence mutual exclusion among the survivors, is `inv_kill`: `C02_mutex` covers histories with `kill`.) -/
theorem C13_lock_not_left_behind (s s' : St) (p : Nat) (hs : step s (.kill p) = some s') :
    ∀ f, s'.holder = some f → s'.fdProc f ≠ p := by
  simp only [step, Option.some.injEq] at hs
  subst hs
  intro f hf
  simp only [] at hf ⊢
  cases hh : s.holder with
  | none => simp [hh] at hf
  | some g =>
    simp only [hh] at hf
    split at hf
    · cases hf
    · cases hf; assumption

/-- Whoever is outside every call, holds nothing and finds the thread lock of `o` and the OS lock free acquires
in three steps (the thread's `depth` is not read). -/
theorem available_when_free (s : St) (t o : Nat) (hfree : s.holder = none)
    (hpc : (s.thr t).pc = .idle) (hh : (s.thr t).holds = none) (hcs : (s.thr t).inCS = false)
    (hob : (s.objs o).tlOwner = none ∧ (s.objs o).fd = none) (hp : s.procT t = s.procO o) :
    ∃ s', accepts s [.tlAcq t o true, .osOpen t true, .flock t true] = some s' ∧
      (s'.thr t).holds = some o ∧ s'.holder = (s'.objs o).fd ∧ (s'.objs o).fd.isSome = true := by
  simp [accepts, step, hpc, hh, hcs, hob.1, hob.2, tlFree, hp, setPc, upd, hfree]

/-- No clean-up by anybody is needed: once nothing holds the OS lock, a fresh thread of a fresh object
of any process acquires it in three steps (there is no on-disk ownership state in the model, as there
is none in the code: the lock file is never unlinked or inspected). -/
theorem C13_available_after_kill (s : St) (t o : Nat)
    (hfree : s.holder = none)
    (hth : s.thr t = { pc := .idle, holds := none, depth := 0, inCS := false })
    (hob : (s.objs o).tlOwner = none ∧ (s.objs o).fd = none) (hp : s.procT t = s.procO o) :
    ∃ s', accepts s [.tlAcq t o true, .osOpen t true, .flock t true] = some s' ∧
      (s'.thr t).holds = some o ∧ s'.holder = (s'.objs o).fd ∧ (s'.objs o).fd.isSome = true :=
  available_when_free s t o hfree (by rw [hth]) (by rw [hth]) (by rw [hth]) hob hp

-- two threads of two objects contend, one is killed while holding
example :
    let s0 := init (fun _ => false) (fun t => t) (fun o => o)
    (accepts s0 [.tlAcq 0 0 true, .osOpen 0 true, .flock 0 true, .enter 0,
                 .tlAcq 1 1 true, .osOpen 1 true, .flock 1 false, .closeA 1, .retry 1,
                 .kill 0, .osOpen 1 true, .flock 1 true, .enter 1]).isSome = true ∧
    -- without the crash the second thread cannot get in
    (accepts s0 [.tlAcq 0 0 true, .osOpen 0 true, .flock 0 true, .enter 0,
                 .tlAcq 1 1 true, .osOpen 1 true, .flock 1 true]).isSome = false := by
  decide

end MutNoUnlock.Small
/-!
# C12 under contention — the Lock contract on the small-step model (every interleaving)

`C12_refines_contract` (`Props.lean`) is about the sequential model: one call at a time.  The
clauses of the contract that can only go wrong *between* threads - a thread let in while the holder
is still inside `release()`, a thread lock left owned by a thread that has returned - are stated
here about the small-step model of `Small.lean`, for every interleaving (with crashes), as corollaries
of the invariant of `SmallInv.lean`.
-/
namespace MutNoUnlock.Small

/-- A thread inside its critical section holds through an object whose `is_locked` is true, which owns
its thread lock for that thread and whose descriptor holds the OS lock. -/
theorem C12_inside_is_locked (reent : Nat → Bool) (pt po : Nat → Nat) (ls : List Label) (s : St)
    (hs : accepts (init reent pt po) ls = some s) (t : Nat) (ht : (s.thr t).inCS = true) :
    ∃ o, (s.thr t).holds = some o ∧ (s.objs o).fd.isSome = true ∧ (s.objs o).tlOwner = some t ∧
      s.holder = (s.objs o).fd ∧ 1 ≤ (s.objs o).counter := by
  have hi := inv_of_accepts hs
  have h1 := (hi.csHold t ht).1
  cases hh : (s.thr t).holds with
  | none => simp [hh] at h1
  | some o =>
    have hc := hi.holdCnt t o hh
    exact ⟨o, rfl, (hi.holdFd t o hh).1, hi.holdOwn t o hh, (hi.holdFd t o hh).2, by omega⟩

/-- No residue: a thread that is outside `acquire` / `release` and does not hold owns no object's thread
lock, whatever the calls it made returned. -/
theorem C12_thread_lock_not_left_behind (reent : Nat → Bool) (pt po : Nat → Nat) (ls : List Label)
    (s : St) (hs : accepts (init reent pt po) ls = some s) (t : Nat)
    (hpc : (s.thr t).pc = .idle ∨ (s.thr t).pc = .dead) (hh : (s.thr t).holds = none) (o : Nat) :
    (s.objs o).tlOwner ≠ some t := by
  have hi := inv_of_accepts hs
  intro ho
  have := hi.ownJust o t ho
  rcases hpc with hpc | hpc <;> simp [hh, hpc, Pc.acqObj, Pc.relObj] at this

theorem C12_unowned_is_pristine (reent : Nat → Bool) (pt po : Nat → Nat) (ls : List Label) (s : St)
    (hs : accepts (init reent pt po) ls = some s) (o : Nat) (ho : (s.objs o).tlOwner = none) :
    (s.objs o).counter = 0 ∧ (s.objs o).tlDepth = 0 ∧ (s.objs o).fd = none :=
  (inv_of_accepts hs).freeSt o ho

/-- "After full release anybody can acquire again", from every reachable state: the conclusion of
`C13_available_after_kill`, its hypothesis on the object supplied by `C12_unowned_is_pristine`. -/
theorem C12_reacquirable_under_contention (reent : Nat → Bool) (pt po : Nat → Nat) (ls : List Label)
    (s : St) (hs : accepts (init reent pt po) ls = some s) (t o : Nat)
    (ho : (s.objs o).tlOwner = none) (hfree : s.holder = none)
    (hth : s.thr t = { pc := .idle, holds := none, depth := 0, inCS := false })
    (hp : s.procT t = s.procO o) :
    ∃ s', accepts s [.tlAcq t o true, .osOpen t true, .flock t true] = some s' ∧
      (s'.thr t).holds = some o ∧ s'.holder = (s'.objs o).fd ∧ (s'.objs o).fd.isSome = true :=
  C13_available_after_kill s t o hfree hth
    ⟨ho, (C12_unowned_is_pristine reent pt po ls s hs o ho).2.2⟩ hp

/-- **Nobody is let in through an object while a thread is inside `acquire` or `release` on it**: the
thread lock is given back only as the last step of `release` and is held throughout `acquire` - so the
`is_locked` short-cut of a nested acquire can never be taken by another thread in the window in which
the descriptor is still set but the OS lock is being dropped. -/
theorem C12_nobody_enters_during_a_call (reent : Nat → Bool) (pt po : Nat → Nat) (ls : List Label)
    (s : St) (hs : accepts (init reent pt po) ls = some s) (t u o : Nat)
    (hin : (s.thr t).pc.relObj = some o ∨ (s.thr t).pc.acqObj = some o) (hne : u ≠ t) :
    step s (.tlAcq u o true) = none := by
  have hi := inv_of_accepts hs
  have hown : (s.objs o).tlOwner = some t := by
    rcases hin with h | h
    · exact (hi.relSt t o h).1
    · exact (hi.acqSt t o h).1
  have hfree : tlFree (s.objs o) u = false := by
    simp [tlFree, hown]
    intro _ e; exact hne e.symm
  simp only [step]
  split
  · simp [hfree]
  · rfl

/-- The labels of thread `t`'s own steps inside a call. -/
def Label.ownStepOf (t : Nat) : Label → Bool
  | .osOpen u _ | .flock u _ | .closeA u | .giveUp u | .retry u | .unlock u | .closeR u | .tlRel u =>
    u == t
  | _ => false

/-- A thread inside `acquire` or `release` always has a step of its own enabled: the calls have no internal
waiting other than the kernel's `flock`, which in the model is the choice between the two `flock` labels. -/
theorem C12_calls_never_stuck (reent : Nat → Bool) (pt po : Nat → Nat) (ls : List Label) (s : St)
    (hs : accepts (init reent pt po) ls = some s) (t : Nat)
    (h1 : (s.thr t).pc ≠ .idle) (h2 : (s.thr t).pc ≠ .dead) :
    ∃ lb : Label, lb.ownStepOf t = true ∧ (step s lb).isSome = true := by
  have hi := inv_of_accepts hs
  cases hp : (s.thr t).pc with
  | idle => exact absurd hp h1
  | dead => exact absurd hp h2
  | acqOpen o => exact ⟨.osOpen t true, by simp [Label.ownStepOf], by simp [step, hp]⟩
  | acqLock o fd => exact ⟨.flock t false, by simp [Label.ownStepOf], by simp [step, hp]⟩
  | acqClose o fd => exact ⟨.closeA t, by simp [Label.ownStepOf], by simp [step, hp]⟩
  | acqDecide o => exact ⟨.giveUp t, by simp [Label.ownStepOf], by simp [step, hp]⟩
  | relUnlock o fd lv => exact ⟨.unlock t, by simp [Label.ownStepOf], by simp [step, hp]⟩
  | relClose o fd lv => exact ⟨.closeR t, by simp [Label.ownStepOf], by simp [step, hp]⟩
  | relTl o lv =>
    have := (hi.relSt t o (by rw [hp]; rfl)).2
    rw [hp] at this
    simp only [Pc.pend] at this
    refine ⟨.tlRel t, by simp [Label.ownStepOf], ?_⟩
    have hne : lv ≠ 0 := by omega
    simp [step, hp, hne]

-- thread 1 waits on the thread lock of the object thread 0 is releasing
example :
    let s0 := init (fun _ => false) (fun _ => 0) (fun _ => 0)
    ∃ s, accepts s0 [.tlAcq 0 0 true, .osOpen 0 true, .flock 0 true, .enter 0, .exit 0,
                     .relBegin 0 0 false, .tlAcq 1 0 false, .unlock 0] = some s ∧
      (s.thr 0).pc ≠ .idle ∧ (s.thr 0).pc ≠ .dead ∧ (s.objs 0).tlOwner = some 0 ∧
      -- thread 1 cannot be let in through this object while thread 0 is inside release()
      (step s (.tlAcq 1 0 true)).isSome = false := by
  refine ⟨_, rfl, ?_⟩
  decide

end MutNoUnlock.Small

/-! In this mutant `unlock` / `closeR` never drop the OS lock, and every theorem above still holds.
After a complete release the lock stays taken and a second thread's flock can never succeed: -/
namespace MutNoUnlock.Small
example :
    let s0 := init (fun _ => false) (fun _ => 0) (fun _ => 0)
    ∃ s, accepts s0 [.tlAcq 0 0 true, .osOpen 0 true, .flock 0 true, .enter 0, .exit 0,
                     .relBegin 0 0 false, .unlock 0, .closeR 0, .tlRel 0,
                     .tlAcq 1 0 true, .osOpen 1 true] = some s ∧
      s.thr 0 = { pc := .idle, holds := none, depth := 0, inCS := false } ∧ s.holder = some 0 ∧
      (step s (.flock 1 true)).isSome = false := by
  refine ⟨_, rfl, ?_⟩
  decide
#print axioms C02_mutex
#print axioms C12_reacquirable_under_contention
end MutNoUnlock.Small
