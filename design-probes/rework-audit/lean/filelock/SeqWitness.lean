import AiutiVerif.FileLock.Props
open AiutiVerif.FileLock

/-! Non-trivial witnesses for the sequential theorems. -/

def s0 : St := { objs := fun i => { reentrant := i == 0 } }
def reent : Nat → Bool := fun i => i == 0

theorem R0 : R s0 none := R.mk_free s0 rfl (fun _ => ⟨rfl, rfl, rfl, rfl⟩) rfl rfl

-- reentrancy flags of s0
theorem re0 : (fun i => (s0.objs i).reentrant) = reent := rfl

-- state after thread 7 acquires object 0 twice (reentrantly)
def s1 : St := (runOp s0 (.acq 0 7 .blocking)).1
def s2 : St := (runOp s1 (.acq 0 7 .nonblocking)).1

theorem R1 : R s1 (some ⟨0, 7, 1⟩) := by
  have := (C12_refines_contract s0 none (.acq 0 7 .blocking) R0 trivial).2.1
  unfold s1; simpa [specOp, specAcqOk] using this

theorem re1 : ∀ j, (s1.objs j).reentrant = reent j :=
  (C12_refines_contract s0 none (.acq 0 7 .blocking) R0 trivial).2.2

theorem R2 : R s2 (some ⟨0, 7, 2⟩) := by
  have := (C12_refines_contract s1 (some ⟨0,7,1⟩) (.acq 0 7 .nonblocking) R1 trivial).2.1
  have e : (fun i => (s1.objs i).reentrant) = reent := funext re1
  rw [e] at this
  unfold s2; simpa [specOp, specAcqOk, reent] using this

-- all hypotheses of C12_refines_contract met together in a held-at-depth-2 state, for a release by the holder
example : ∃ s h op, R s h ∧ InContract h op ∧ h = some ⟨0,7,2⟩ ∧ op = .rel 0 7 false :=
  ⟨s2, _, _, R2, (by intro hd h1 _; cases h1; rfl), rfl, rfl⟩
-- and for a forced release, and for another thread's acquire through another object (refused)
example : InContract (some ⟨0,7,2⟩) (.rel 0 7 true) := by intro hd h1 _; cases h1; rfl
example : InContract (some ⟨0,7,2⟩) (.acq 1 8 (.timed 100)) := trivial

-- concrete results in that state: the conclusions are not trivially true
#eval (runOp s2 (.acq 1 8 (.timed 100))).2       -- bool false
#eval (runOp s2 (.acq 0 8 .nonblocking)).2       -- bool false
#eval (runOp s2 (.acq 0 7 .nonblocking)).2       -- bool true
#eval (runOp s2 (.rel 0 7 false)).2
#eval ((runOp s2 (.rel 0 7 false)).1.objs 0)
#eval ((runOp s2 (.rel 0 7 true)).1.objs 0)
#eval (runOp s2 (.acq 1 8 (.timed 100))).1.now   -- 150: tau + poll bound is tight
#eval s2.opened

-- C12_false_leaves_state: hypotheses satisfiable with a really refused acquire
example : (acquire s2 1 8 (.timed 100)).2 = .bool false := by decide
example : (acquire s2 0 8 .nonblocking).2 = .bool false := by decide

-- OUTSIDE the contract (release by a thread that does not hold), reentrant object: residue, so InContract is needed there
#eval ((runOp s2 (.rel 0 8 true)).1.objs 0)
-- OUTSIDE the contract, NON-reentrant object 1 held by 8, released by 9: the model still agrees with the contract
def t1 : St := (runOp s0 (.acq 1 8 .blocking)).1
#eval ((runOp t1 (.rel 1 9 false)).1.objs 1)
#eval (runOp t1 (.rel 1 9 false)).1.opened
#eval (runOp t1 (.rel 1 9 false)).1.holder
#eval (specOp reent (some ⟨1,8,1⟩) (.rel 1 9 false))
