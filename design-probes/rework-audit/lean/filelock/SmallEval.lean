import AiutiVerif.FileLock.SmallContract
open AiutiVerif.FileLock.Small
def reent : Nat → Bool := fun o => o == 0
def pT : Nat → Nat := fun t => if t == 2 then 1 else 0
def pO : Nat → Nat := fun o => if o == 2 then 1 else 0
def s0 : St := init reent pT pO
def shw (s : Option St) : String :=
  match s with
  | none => "REJECTED"
  | some s => s!"thr0={repr (s.thr 0)}\nthr1={repr (s.thr 1)}\nthr2={repr (s.thr 2)}\nobj0={repr (s.objs 0)}\nobj1={repr (s.objs 1)}\nobj2={repr (s.objs 2)}\nopened={s.opened} holder={s.holder} nextFd={s.nextFd}"
def trA : List Label :=
  [.tlAcq 0 0 true, .osOpen 0 true, .flock 0 true, .tlAcq 0 0 true, .enter 0,
   .tlAcq 1 1 true, .osOpen 1 true, .flock 1 false, .closeA 1,
   .tlAcq 2 2 true, .osOpen 2 true]
#eval IO.println (shw (accepts s0 trA))
#eval firstReject s0 trA 0
