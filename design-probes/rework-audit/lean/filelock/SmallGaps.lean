import AiutiVerif.FileLock.SmallContract
open AiutiVerif.FileLock.Small

/-! 1. `Inv` does not exclude a stuck OS lock: every thread idle, nobody holds, every object pristine,
yet `holder = some 5`.  No Small theorem concludes `holder = none` (except right after `kill`), so
"after full release the lock is free" is not a theorem of the small-step model. -/
def stuck : St := { init (fun _ => false) (fun _ => 0) (fun _ => 0) with holder := some 5 }

theorem inv_stuck : Inv stuck := by
  constructor <;> simp [stuck, init, Pc.acqObj, Pc.relObj, Pc.acqFd, Pc.relFd, Pc.relTlObj]

-- in `stuck` nobody can ever get the lock: every `flock _ true` is refused, and stays refused
example (s : St) (t : Nat) (h : s.holder = some 5) : step s (.flock t true) = none := by
  simp only [step]; split <;> simp [h]

/-! 2. Undisclosed restriction on clients: a thread that holds through object 0 cannot even *attempt*
an acquire through another object 1 of the same process (neither outcome is a step), so `C02_mutex`
("every label sequence ... different objects") says nothing about such runs. -/
def s0 : St := init (fun _ => false) (fun _ => 0) (fun _ => 0)
example : ∃ s, accepts s0 [.tlAcq 0 0 true, .osOpen 0 true, .flock 0 true] = some s ∧
    (s.thr 0).holds = some 0 ∧ (s.objs 1).tlOwner = none ∧
    (step s (.tlAcq 0 1 true)).isSome = false ∧ (step s (.tlAcq 0 1 false)).isSome = false := by
  refine ⟨_, rfl, ?_⟩; decide
-- nor can a thread inside its critical section call acquire again on its reentrant object without `exit` first
example : ∃ s, accepts (init (fun _ => true) (fun _ => 0) (fun _ => 0))
      [.tlAcq 0 0 true, .osOpen 0 true, .flock 0 true, .enter 0] = some s ∧
    (step s (.tlAcq 0 0 true)).isSome = false := by
  refine ⟨_, rfl, ?_⟩; decide

/-! 3. `C13_lock_not_left_behind` needs nothing of the state: it holds of an arbitrary (unreachable,
`Inv`-violating) state, being the `holder` clause of the `kill` label read back. -/
def garbage : St := { s0 with holder := some 9, fdProc := fun _ => 3,
                              thr := fun _ => { pc := .relTl 4 0, holds := some 8, depth := 0, inCS := true } }
example : ¬ Inv garbage := fun h => by
  have := (h.csHold 0 rfl).2; simp [garbage] at this
example (p : Nat) (s' : St) (hs : step garbage (.kill p) = some s') :
    ∀ f, s'.holder = some f → s'.fdProc f ≠ p := C13_lock_not_left_behind garbage s' p hs

/-! 4. the conclusion of `C13_lock_not_left_behind` speaks of the process killed in THIS step only; the
statement "never left with a dead process" over runs (e.g. after a second, different kill) is not stated.
It is the case that `kill` is always enabled: -/
example (s : St) (p : Nat) : (step s (.kill p)).isSome = true := by simp [step]
