import AiutiVerif.FileLock.SmallContract
open AiutiVerif.FileLock.Small

/-! Reachable, non-trivial states for the hypotheses of the small-step theorems.
Two processes: threads 0,1 and objects 0 (reentrant),1 in process 0; thread 2, object 2 in process 1. -/

def reent : Nat → Bool := fun o => o == 0
def pT : Nat → Nat := fun t => if t == 2 then 1 else 0
def pO : Nat → Nat := fun o => if o == 2 then 1 else 0
def s0 : St := init reent pT pO

-- thread 0 acquires reentrant object 0 twice, enters; thread 1 is inside acquire on object 1 (flock refused);
-- thread 2 (other process) is inside acquire too, carrying a descriptor
def trA : List Label :=
  [.tlAcq 0 0 true, .osOpen 0 true, .flock 0 true, .tlAcq 0 0 true, .enter 0,
   .tlAcq 1 1 true, .osOpen 1 true, .flock 1 false, .closeA 1,
   .tlAcq 2 2 true, .osOpen 2 true]

-- W1: C02_mutex / C12_inside_is_locked / C02_success_is_hold: a reachable state with a thread inside
-- its critical section, holding reentrantly at depth 2, while two other threads are mid-acquire.
theorem W1 : ∃ s, accepts s0 trA = some s ∧ (s.thr 0).inCS = true ∧ (s.thr 0).holds = some 0 ∧
    (s.thr 0).depth = 2 ∧ (s.objs 0).counter = 2 ∧ (s.thr 1).pc = .acqDecide 1 ∧ (s.thr 2).pc = .acqLock 2 2 ∧
    s.holder = some 0 := by
  refine ⟨_, rfl, ?_⟩; decide

-- so `Inv` is satisfiable with a thread inside the critical section (not only at `init`)
example : ∃ s, Inv s ∧ (s.thr 0).inCS = true ∧ (s.thr 0).depth = 2 := by
  obtain ⟨s, hs, h1, _, h3, _⟩ := W1
  exact ⟨s, inv_of_accepts hs, h1, h3⟩

-- W2: C12_nobody_enters_during_a_call / C12_calls_never_stuck: thread 1 inside acquire on object 1 (acqObj),
-- and a thread inside release (relObj) with lv = 2 (forced release of depth 2)
def trB : List Label :=
  [.tlAcq 0 0 true, .osOpen 0 true, .flock 0 true, .tlAcq 0 0 true, .enter 0, .exit 0,
   .relBegin 0 0 true, .unlock 0, .closeR 0]
theorem W2 : ∃ s, accepts s0 trB = some s ∧ (s.thr 0).pc = .relTl 0 2 ∧ (s.thr 0).pc.relObj = some 0 ∧
    (s.thr 0).pc ≠ .idle ∧ (s.thr 0).pc ≠ .dead ∧ s.holder = none ∧ (s.objs 0).tlOwner = some 0 ∧
    (step s (.tlAcq 1 0 true)).isSome = false ∧ (step s (.tlRel 0)).isSome = true := by
  refine ⟨_, rfl, ?_⟩; decide

-- W3: C12_thread_lock_not_left_behind / C12_unowned_is_pristine / C12_reacquirable_under_contention:
-- after the forced release is complete thread 0 is exactly the "fresh" record (depth 0), object 0 unowned,
-- OS lock free, and thread 1 (never acquired) can acquire through object 0
def trC : List Label := trB ++ [.tlRel 0, .tlRel 0]
theorem W3 : ∃ s, accepts s0 trC = some s ∧
    s.thr 0 = { pc := .idle, holds := none, depth := 0, inCS := false } ∧
    s.thr 1 = { pc := .idle, holds := none, depth := 0, inCS := false } ∧
    (s.objs 0).tlOwner = none ∧ s.holder = none ∧ s.procT 1 = s.procO 0 ∧ s.opened = [] := by
  refine ⟨_, rfl, ?_⟩; decide

-- W4: C13_lock_not_left_behind / inv_kill: process 0 is killed while thread 0 is inside its critical section
-- and thread 2 of process 1 is waiting with an open descriptor; afterwards thread 2 gets the lock.
def trD : List Label := trA ++ [.kill 0]
theorem W4 : ∃ s, accepts s0 trD = some s ∧ s.holder = none ∧ (s.thr 0).pc = .dead ∧ (s.thr 1).pc = .dead ∧
    (s.thr 2).pc = .acqLock 2 2 ∧ (s.objs 0).tlOwner = none ∧ s.opened = [2] ∧
    (step s (.flock 2 true)).isSome = true := by
  refine ⟨_, rfl, ?_⟩; decide
-- the pre-kill state really had the dead process' descriptor as holder
example : ∃ s, accepts s0 trA = some s ∧ s.holder = some 0 ∧ s.fdProc 0 = 0 := by
  refine ⟨_, rfl, ?_⟩; decide

-- W5: kill of the OTHER process (1) while process 0 holds: the holder survives (second branch of C13_lock_not_left_behind)
theorem W5 : ∃ s, accepts s0 (trA ++ [.kill 1]) = some s ∧ s.holder = some 0 ∧ (s.thr 0).inCS = true ∧
    (s.thr 2).pc = .dead ∧ s.opened = [0] := by
  refine ⟨_, rfl, ?_⟩; decide

-- C13_available_after_kill hypotheses in the post-kill state for a thread/object of the dead process' peer:
-- thread 2 is NOT fresh there (it is mid-acquire); a really fresh one: thread 5 / object 5 of process 0?  dead.
-- fresh thread 7 of process 1 (pT 7 = 0, so process 0 - dead). Use thread 2's process: only thread 2. So take kill of process 1 instead:
theorem W6 : ∃ s, accepts s0 [.tlAcq 2 2 true, .osOpen 2 true, .flock 2 true, .enter 2, .kill 1] = some s ∧
    s.holder = none ∧ s.thr 1 = { pc := .idle, holds := none, depth := 0, inCS := false } ∧
    (s.objs 1).tlOwner = none ∧ (s.objs 1).fd = none ∧ s.procT 1 = s.procO 1 := by
  refine ⟨_, rfl, ?_⟩; decide

-- W7: nested (non-forced) release: the one point where a thread inside release still holds (`holdPc`'s second case)
theorem W7 : ∃ s, accepts s0 [.tlAcq 0 0 true, .osOpen 0 true, .flock 0 true, .tlAcq 0 0 true,
      .relBegin 0 0 false] = some s ∧ (s.thr 0).pc = .relTl 0 1 ∧ (s.thr 0).holds = some 0 ∧
      (s.thr 0).depth = 1 ∧ (s.objs 0).tlDepth = 2 ∧ (s.objs 0).counter = 1 ∧ s.holder = some 0 := by
  refine ⟨_, rfl, ?_⟩; decide

-- W8: hand-over between processes without a crash: thread 0 (process 0) releases, thread 2 (process 1), which was
-- refused once and retried, gets the lock and enters
theorem W8 : ∃ s, accepts s0 [.tlAcq 0 0 true, .osOpen 0 true, .flock 0 true, .enter 0,
      .tlAcq 2 2 true, .osOpen 2 true, .flock 2 false, .closeA 2, .retry 2, .osOpen 2 true,
      .exit 0, .relBegin 0 0 false, .unlock 0, .flock 2 true, .enter 2, .closeR 0, .tlRel 0] = some s ∧
      (s.thr 2).inCS = true ∧ (s.thr 0).inCS = false ∧ s.holder = some 2 ∧ s.opened = [2] := by
  refine ⟨_, rfl, ?_⟩; decide

-- the theorems instantiated at W1 give their (non-trivial) conclusions
example : ∃ (s : St) (o : Nat), (s.thr 0).holds = some o ∧ (s.objs o).fd.isSome = true ∧ 1 ≤ (s.objs o).counter := by
  obtain ⟨s, hs, h1, _⟩ := W1
  obtain ⟨o, a, b, _, _, c⟩ := C12_inside_is_locked reent pT pO trA s hs 0 h1
  exact ⟨s, o, a, b, c⟩
