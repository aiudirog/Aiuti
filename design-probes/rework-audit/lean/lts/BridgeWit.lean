import AiutiVerif.Bridge.Props
/-! Witnesses for the Bridge (C16) end results, and the check of what `C16_complete` concludes. -/
namespace AiutiVerif.Bridge

def cfgF : Cfg := { src := [0, 7, 0], failAt := some 2 }
def cfgN : Cfg := { src := [4, 5], failAt := none }

def chk (c : Cfg) (ls : List Label) (p : St → Bool) : Bool :=
  match accepts c {} ls with
  | some s => p s
  | none => false

/-- `C16_complete` / `C16_no_thread_left`: finished by raising after the two elements before the failure -/
theorem B1 : chk cfgF [.put 0, .get 0, .put 7, .srcFail, .putDone, .get 7, .getDone, .workerExit, .join true]
    (fun s => s.cpc == .finished true && s.consumed == [0, 7] && s.ppc == .exited true && s.idx == 2) = true := by decide
/-- … the wrong flag is refused, and so is joining before the worker has exited -/
theorem B1b : chk cfgF [.put 0, .get 0, .put 7, .srcFail, .putDone, .get 7, .getDone]
    (fun s => !(step cfgF s (.join true)).isSome && !(step cfgF s (.join false)).isSome &&
      (step cfgF s .workerExit).isSome) = true := by decide
theorem B1c : chk cfgF [.put 0, .get 0, .put 7, .srcFail, .putDone, .get 7, .getDone, .workerExit]
    (fun s => (step cfgF s (.join true)).isSome && !(step cfgF s (.join false)).isSome) = true := by decide
/-- no failure -/
theorem B2 : chk cfgN [.put 4, .put 5, .srcEnd, .putDone, .workerExit, .get 4, .get 5, .getDone, .join false]
    (fun s => s.cpc == .finished false && s.consumed == [4, 5] && s.ppc == .exited false) = true := by decide

/-- `C16_sentinel_always`: producer past its `finally`, consumer still reading, elements ahead of the sentinel -/
theorem B3 : chk cfgN [.put 4, .put 5, .srcEnd, .putDone, .get 4]
    (fun s => s.ppc == .exiting false && s.cpc == .getting && s.chan == [.elem 5, .done]) = true := by decide

/-- `C16_never_stuck` in the case that needs the invariant: worker exited, consumer reading -/
theorem B4 : chk cfgN [.put 4, .put 5, .srcEnd, .putDone, .workerExit]
    (fun s => s.ppc == .exited false && s.cpc == .getting && (step cfgN s (.get 4)).isSome &&
      !(step cfgN s (.get 5)).isSome && !(step cfgN s .getDone).isSome) = true := by decide

/-- `C16_sequence`: the order is enforced: `put 7` first is refused for source [0, 7, 0] -/
theorem B5 : chk cfgF [] (fun s => !(step cfgF s (.put 7)).isSome && (step cfgF s (.put 0)).isSome) = true := by decide

/-! ### What `C16_complete` concludes.  Its second conjunct is `r = true ↔ c.failAt = some s.idx`.  Taken by itself the
conclusion does not say "raised iff the source failed": it is satisfied by a (hypothetical) final state in which a source
that fails after one element was consumed as `[1]` and the consumer finished *without* raising, with `idx = 3`. -/
def Concl (c : Cfg) (s : St) (r : Bool) : Prop :=
  s.consumed = expected c ∧ (r = true ↔ c.failAt = some s.idx) ∧ s.idx ≤ c.src.length

example : Concl { src := [1, 2, 3], failAt := some 1 } { idx := 3, consumed := [1], cpc := .finished false, ppc := .exited false }
    false := by
  refine ⟨rfl, ?_, by decide⟩
  decide

/-- The model does satisfy the stronger reading (so this is a statement that concludes less than it could, not a
fault of the model): raised iff there is a failure position within the source. -/
theorem complete_strong (c : Cfg) (ls : List Label) (s : St) (hs : accepts c {} ls = some s)
    (r : Bool) (hf : s.cpc = .finished r) :
    (r = true ↔ ∃ n, c.failAt = some n ∧ n ≤ c.src.length) := by
  have hi := inv_of_accepts hs
  have hfl := hi.flag r (.inr (.inr (hi.fin r hf)))
  constructor
  · intro h; exact ⟨s.idx, hfl.1 h, hi.idxLe⟩
  · rintro ⟨n, hn, hle⟩
    cases r with
    | true => rfl
    | false =>
      obtain ⟨hlen, hne⟩ := hfl.2 rfl
      have := hi.idxFail n hn
      have hidx := hi.idxLe
      have : s.idx = n := by omega
      exact absurd (this ▸ hn) hne

/-! ### the two `chanElems` are the same function -/
theorem chanElems_eq : ∀ l, chanElems l = Close.chanElems l
  | [] => rfl
  | .elem x :: r => by simp [chanElems, Close.chanElems, chanElems_eq r]
  | .done :: r => by simp [chanElems, Close.chanElems, chanElems_eq r]

namespace Close
def chk (c : Cfg) (ls : List Label) (p : St → Bool) : Bool :=
  match accepts c {} ls with
  | some s => p s
  | none => false
def cfg3 : Cfg := { src := [5, 6, 7], failAt := none }

/-- `C16_at_most_one_put_after_close`: after the close one late `put` is accepted (second disjunct), a second one is
refused, `drop` is accepted; the consumer's labels are refused. -/
theorem K1 : chk cfg3 [.put 5, .get 5, .close] (fun s => s.stopped && !s.late && (step cfg3 s (.put 6)).isSome &&
    (step cfg3 s (.drop 6)).isSome && !(step cfg3 s .close).isSome) = true := by decide
theorem K2 : chk cfg3 [.put 5, .get 5, .close, .put 6] (fun s => s.stopped && s.late && s.nput == 2 &&
    !(step cfg3 s (.put 7)).isSome && (step cfg3 s (.drop 7)).isSome && !(step cfg3 s (.get 6)).isSome &&
    s.consumed == [5]) = true := by decide
/-- `close` from `joining`, with the worker still inside (`C16_close_never_blocks`) -/
theorem K3 : chk cfg3 [.put 5, .put 6, .put 7, .srcEnd, .putDone, .get 5, .get 6, .get 7, .getDone]
    (fun s => s.cpc == .joining && s.ppc == .exiting false && (step cfg3 s .close).isSome) = true := by decide
/-- `C16_helper_progress` / `C16_helper_never_stuck`: the measure starts at |source| + 3 -/
example : pmeasure cfg3 {} = 6 := by decide
end Close

end AiutiVerif.Bridge
