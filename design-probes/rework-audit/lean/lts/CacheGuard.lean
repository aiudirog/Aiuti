import AiutiVerif.Cache.Props
/-! `C06_marker_removal_never_fails` says nothing that is particular to the removal of the marker: the same holds of
every program point that is not parked and does not ask for the lock (`stepCaller_isSome`, which is in Props.lean),
and the theorem is that lemma at `finDel`.  `step … = none` means "label not enabled"; the LTS has no raising
transition at all, so "no `KeyError`" is how `stepCaller` is written (the `if` at `.finDel`), not something derived. -/
namespace AiutiVerif.Cache.LTS

theorem any_busy_step_enabled (s : State) (c : CId) (hr : (s.loops (s.cs c).loop).isRunning = true)
    (hp : (s.cs c).pc.parked = false) (hw : (s.cs c).pc.wantsLock = false) : (stepCaller s c).isSome = true := by
  rw [stepCaller_isSome, hr, hp, hw]; rfl

example (s : State) (c : CId) (o : Outcome) (hpc : (s.cs c).pc = .finDel o)
    (hr : (s.loops (s.cs c).loop).isRunning = true) : (stepCaller s c).isSome = true :=
  any_busy_step_enabled s c hr (by rw [hpc]; rfl) (by rw [hpc]; rfl)

-- the same "never fails" for the unconditional pre-F2 removal would be just as provable in this style of model:
-- a variant of the step that removes whatever marker is there is accepted as well (nothing in `Option State` says "raised").
example (s : State) (k : KId) : (some { s with marker := upd s.marker k none } : Option State).isSome = true := rfl

end AiutiVerif.Cache.LTS

namespace AiutiVerif.Cache.LTS
/-- the fields `C06_cancel_isolated` does not mention are untouched as well -/
example (s s' : State) (c : CId) (hs : step s (.cancelWait c) = some s') :
    s'.produced = s.produced ∧ s'.raisedBy = s.raisedBy ∧ s'.evOwner = s.evOwner ∧ s'.nextEv = s.nextEv ∧
    s'.ncallers = s.ncallers ∧ ∀ d, d ≠ c → s'.cancelledC d = s.cancelledC d := by
  simp only [step] at hs
  split at hs
  · simp only [Option.some.injEq] at hs; subst hs
    refine ⟨rfl, rfl, rfl, rfl, rfl, ?_⟩
    intro d hd; simp [State.setPc, upd, hd]
  · simp at hs
end AiutiVerif.Cache.LTS
