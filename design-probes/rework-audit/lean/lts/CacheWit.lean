import AiutiVerif.Cache.Props
/-! Non-trivial witnesses for the Cache LTS end results: concrete accepted runs from `init`. -/
namespace AiutiVerif.Cache.LTS

def c0 : CId := ⟨0⟩
def c1 : CId := ⟨1⟩
def c2 : CId := ⟨2⟩
def k0 : KId := ⟨0⟩
def l0 : LId := ⟨0⟩
def l1 : LId := ⟨1⟩
def v7 : Val := ⟨7⟩
def x3 : Exc := ⟨3⟩

def steps (c : CId) : Nat → List Label
  | 0 => []
  | n + 1 => .step c :: steps c n

/-- c0 becomes the owner for k0 on l0 and is awaiting its invocation (7 own steps). -/
def toAwait0 : List Label := [.loopStart l0, .loopStart l1, .call c0 k0 l0] ++ steps c0 7
/-- then c1 on l1 reads the marker and waits on c0's event (7 own steps: probe1 lockAcq probe2 chk chkLoop relWait -> waiting is 6) -/
def withWaiter : List Label := toAwait0 ++ [.call c1 k0 l1] ++ steps c1 6

structure View where
  pc0 : Pc
  orphan0 : Bool
  pc1 : Pc
  orphan1 : Bool
  lock : Option CId
  marker : Option (LId × EId)
  cache : Option Val
  ev0 : EId
  ev1 : EId
  evSet0 : Bool
  evSet1 : Bool
  owner0 : CId   -- evOwner of event 0
  l0st : LoopSt
  l1st : LoopSt
  deriving Repr, DecidableEq

def view (s : State) : View :=
  { pc0 := (s.cs c0).pc, orphan0 := (s.cs c0).orphan, pc1 := (s.cs c1).pc, orphan1 := (s.cs c1).orphan,
    lock := s.lock, marker := s.marker k0, cache := s.cache k0, ev0 := (s.cs c0).ev, ev1 := (s.cs c1).ev,
    evSet0 := s.evSet ⟨0⟩, evSet1 := s.evSet ⟨1⟩, owner0 := s.evOwner ⟨0⟩, l0st := s.loops l0, l1st := s.loops l1 }

def run (ls : List Label) : Option View := (accepts init ls).map view

#eval run toAwait0
#eval run withWaiter


def chk (ls : List Label) (p : State → Bool) : Bool :=
  match accepts init ls with
  | some s => p s
  | none => false

theorem chk_sound {ls : List Label} {p : State → Bool} (h : chk ls p = true) :
    ∃ s, accepts init ls = some s ∧ p s = true := by
  unfold chk at h
  cases hs : accepts init ls with
  | none => rw [hs] at h; cases h
  | some s => rw [hs] at h; exact ⟨s, rfl, h⟩

def isLive (s : State) (c : CId) : Bool := (s.cs c).pc == .awaiting && !(s.cs c).orphan
theorem isLive_iff (s : State) (c : CId) : isLive s c = true ↔ live s c := by
  simp [isLive, live]

/-! ### W1: one live invocation and a real waiter on an unset event
(`C01_single_flight`, `C01_one_owner`, `C05_no_lost_wakeup` non-vacuous) -/
theorem W1 : chk withWaiter (fun s => isLive s c0 && (s.cs c1).pc == .waiting &&
    !s.evSet (s.cs c1).ev && s.evOwner (s.cs c1).ev == c0 && (s.cs c0).pc.beforeSet &&
    (s.cs c0).ev == (s.cs c1).ev && (s.cs c0).key == (s.cs c1).key) = true := by decide

/-- the theorem applied to the witness: all its hypotheses hold together in a reachable state -/
example : ∃ s, accepts init withWaiter = some s ∧ (s.cs c1).pc = .waiting ∧ s.evSet (s.cs c1).ev = false ∧
    (s.cs (s.evOwner (s.cs c1).ev)).pc.beforeSet = true := by
  obtain ⟨s, hs, hp⟩ := chk_sound W1
  simp only [Bool.and_eq_true, beq_iff_eq, Bool.not_eq_true'] at hp
  obtain ⟨⟨⟨⟨⟨⟨_, hw⟩, hns⟩, _⟩, _⟩, _⟩, _⟩ := hp
  exact ⟨s, hs, hw, hns, (C05_no_lost_wakeup withWaiter s hs c1 hw hns).1⟩

/-! ### W2: lock held; a second caller asks for it: only the 4th disjunct of `C05_never_stuck` is true -/
def lockContention : List Label :=
  [.loopStart l0, .loopStart l1, .call c0 k0 l0] ++ steps c0 3 ++ [.call c1 k0 l1] ++ steps c1 1
#eval run lockContention
theorem W2 : chk lockContention (fun s => s.lock == some c0 && (s.cs c1).pc == .lockAcq &&
    !(stepCaller s c1).isSome && !(step s (.iend c1 .cancelled)).isSome &&
    !(step s (.wake c1)).isSome && (stepCaller s c0).isSome) = true := by decide

/-! ### W3: a real take-over.  The owner's loop stops, the waiter is woken, re-probes, finds the dead marker
and stands at `put` while the (orphaned) owner still owns the same key: every hypothesis of
`C01_takeover_only_from_dead` but `orphan = false` holds. -/
def takeoverAtPut : List Label := withWaiter ++ [.loopStop l0, .wake c1] ++ steps c1 5
#eval run takeoverAtPut
theorem W3 : chk takeoverAtPut (fun s => (s.cs c1).pc == .put && (s.cs c0).pc.owner &&
    (s.cs c0).key == (s.cs c1).key && (s.cs c0).orphan) = true := by decide

/-- … and with the loop still running the same walk ends in `relWait`, not in `put`. -/
def noTakeover : List Label := withWaiter ++ [.wake c1] ++ steps c1 5
theorem W3b : chk noTakeover (fun s => (s.cs c1).pc == .relWait) = true := by decide

/-! ### W4: OVERCLAIM check for the docstring of `C01_single_flight` ("never in progress at once on running
event loops"): after the take-over the stopped loop is run again; both callers await an invocation for the
same key, both loops are `running`. -/
def twoInProgress : List Label := takeoverAtPut ++ steps c1 3 ++ [.loopResume l0]
#eval run twoInProgress
theorem W4 : chk twoInProgress (fun s =>
    (s.cs c0).pc == .awaiting && (s.cs c1).pc == .awaiting && (s.cs c0).key == (s.cs c1).key && c0 != c1 &&
    s.loops (s.cs c0).loop == .running && s.loops (s.cs c1).loop == .running &&
    -- both invocations can still end successfully
    (step s (.iend c0 (.ok v7))).isSome && (step s (.iend c1 (.ok ⟨8⟩))).isSome &&
    !isLive s c0 && isLive s c1) = true := by decide

/-! ### W5: the orphan finishes after the take-over: its `finDel` finds somebody else's marker; the step is
accepted and leaves the marker (`C06_marker_removal_never_fails` exercised in the interesting case). -/
def orphanFinishes : List Label := twoInProgress ++ [.iend c0 (.raised x3)] ++ steps c0 2
#eval run orphanFinishes
theorem W5 : chk orphanFinishes (fun s => (s.cs c0).pc == .finDel (.raised x3) &&
    s.marker k0 == some (l1, ⟨1⟩) &&
    (match stepCaller s c0 with | some s' => s'.marker k0 == some (l1, ⟨1⟩) | none => false)) = true := by decide

/-! ### W6: the three outcomes of `C06_outcome` -/
def okRun : List Label := toAwait0 ++ [.iend c0 (.ok v7)] ++ steps c0 5
def raiseRun : List Label := toAwait0 ++ [.iend c0 (.raised x3)] ++ steps c0 4
def cancelRun : List Label := withWaiter ++ [.cancelWait c1]
#eval run okRun
#eval run raiseRun
#eval run cancelRun
theorem W6a : chk okRun (fun s => (s.cs c0).pc == .done (.ok v7) && s.cache k0 == some v7 &&
    s.produced k0 v7 && !s.produced k0 ⟨8⟩ && s.marker k0 == none && s.lock == none) = true := by decide
theorem W6b : chk raiseRun (fun s => (s.cs c0).pc == .done (.raised x3) && s.cache k0 == none &&
    s.raisedBy c0 x3 && !s.raisedBy c1 x3 && s.marker k0 == none) = true := by decide
theorem W6c : chk cancelRun (fun s => (s.cs c1).pc == .done .cancelled && s.cancelledC c1 &&
    !s.cancelledC c0 && (s.cs c0).pc == .awaiting) = true := by decide

/-! ### W7: `C01_cached_is_returned` at `probe2`: c1 passed `probe1` before the store, takes the lock after it. -/
def probe2Hit : List Label :=
  toAwait0 ++ [.call c1 k0 l1, .step c1, .iend c0 (.ok v7)] ++ steps c0 5 ++ [.step c1]
#eval run probe2Hit
theorem W7 : chk probe2Hit (fun s => (s.cs c1).pc == .probe2 && s.cache (s.cs c1).key == some v7 &&
    (match stepCaller s c1 with | some s' => (s'.cs c1).pc == .done (.ok v7) && s'.lock == none | none => false)) = true := by
  decide

/-! ### W8: `C05_waits_on_owners_event` at `chkLoop` -/
def atChkLoop : List Label := toAwait0 ++ [.call c1 k0 l1] ++ steps c1 4
theorem W8 : chk atChkLoop (fun s => (s.cs c1).pc == .chkLoop &&
    s.marker (s.cs c1).key == some (l0, ⟨0⟩) && (s.cs c1).evLoop == l0 && (s.cs c1).ev == ⟨0⟩) = true := by decide

/-! ### W9: shutdown: an orphan's invocation can only end cancelled -/
def shut : List Label := toAwait0 ++ [.loopStop l0, .shutdownBegin l0]
theorem W9 : chk shut (fun s => !(step s (.iend c0 (.ok v7))).isSome &&
    (step s (.iend c0 .cancelled)).isSome && (s.loops l0).isRunning) = true := by decide


/-! ### W10: `C05_publisher_enabled` (lock free) and the case where `hl` fails: the publisher waits for a lock holder that can step -/
theorem W10a : chk (toAwait0 ++ [.iend c0 (.raised x3)]) (fun s => (s.cs c0).pc == .finAcq (.raised x3) &&
    s.lock == none && (stepCaller s c0).isSome) = true := by decide
theorem W10b : chk (toAwait0 ++ [.call c1 k0 l1, .step c1, .step c1, .iend c0 (.raised x3)]) (fun s =>
    (s.cs c0).pc == .finAcq (.raised x3) && s.lock == some c1 && !(stepCaller s c0).isSome &&
    (stepCaller s c1).isSome) = true := by decide
/-! ### W11: `waiting` is left by `cancelWait` and by `shutdownBegin` too (the comment above `Pc.togo` says "only by a wake-up") -/
theorem W11 : chk (withWaiter ++ [.loopStop l1, .shutdownBegin l1]) (fun s => (s.cs c1).pc == .done .cancelled &&
    s.cancelledC c1) = true := by decide

end AiutiVerif.Cache.LTS
