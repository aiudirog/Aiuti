import AiutiVerif.CrossLoop.Progress
/-! Witnesses for the CrossLoop (C17) end results: concrete accepted runs from `{}`. -/
namespace AiutiVerif.CrossLoop

def chk (ls : List Label) (p : St → Bool) : Bool :=
  match accepts {} ls with
  | some s => p s
  | none => false

/-- caller 0 borrows the idle loop with helper thread 10, which reaches `running` -/
def borrowRunning : List Label :=
  [.call 0, .readRunning 0 false, .readClosed 0 false, .spawnBorrow 0 10,
   .get1 10 false, .createAcq 10, .get2 10 false, .createRel 10, .lockAcq 10, .runStart 10]

/-- `C17_one_runner`: a reachable state with exactly one runner, and a second thread (11, `loop_in_thread`) that has the
same lock object in hand and waits for it; a third (12) too: `C17_lock_unique` with two different threads. -/
theorem X1 : chk (borrowRunning ++ [.spawnForever 11, .get1 11 true, .spawnForever 12, .get1 12 true]) (fun s =>
    s.runners == [10] && (s.thr 11).lockOf == some 0 && (s.thr 12).lockOf == some 0 && (s.thr 10).lockOf == some 0 &&
    s.holder 0 == some 10 && !(step s (.lockAcq 11)).isSome && (step s (.awRun 0)).isSome) = true := by decide

/-- the race of the double-checked creation: two threads both read an empty table; the second one finds the lock of the
first at its second read (`get2 _ true`), `get2 _ false` is refused -/
theorem X2 : chk [.spawnForever 1, .spawnForever 2, .get1 1 false, .get1 2 false, .createAcq 1, .get2 1 false,
      .createRel 1, .createAcq 2] (fun s =>
    !(step s (.get2 2 false)).isSome && (step s (.get2 2 true)).isSome && s.createHolder == some 2 &&
    (s.thr 1).lockOf == some 0) = true := by decide

/-- `C17_helpers_never_stuck`: its hypotheses in a state where thread 11 waits for the loop lock and the only way on is
the awaitable of the borrowing thread (`awRun 0`): no own step of 11, `runEnd 10` refused. -/
theorem X3 : chk (borrowRunning ++ [.spawnForever 11, .get1 11 true]) (fun s =>
    !s.closed && (s.thr 11).live && !(step s (.lockAcq 11)).isSome && !(step s (.runEnd 10)).isSome &&
    (step s (.awRun 0)).isSome) = true := by decide

/-- the `runsForever` disjunct: loop_in_thread runs, no stop requested, a second thread waits for the lock; every
helper move is refused. -/
def foreverRun : List Label :=
  [.spawnForever 1, .get1 1 false, .createAcq 1, .get2 1 false, .createRel 1, .lockAcq 1, .runStart 1,
   .spawnForever 2, .get1 2 true]
theorem X4 : chk foreverRun (fun s =>
    (s.thr 2).live && s.thr 1 == .running 0 && s.purpose 1 == .forever && !s.stopReq &&
    !(step s (.lockAcq 2)).isSome && !(step s (.runEnd 1)).isSome) = true := by decide
/-- … after the stop request the thread leaves, releases and the second one gets the lock:
`C17_stopped_before_return`, `C17_no_lock_left_behind` at a `done` thread. -/
theorem X4b : chk (foreverRun ++ [.stopRequest, .runEnd 1, .lockRel 1, .lockAcq 2]) (fun s =>
    s.thr 1 == .done && s.runners == [] && s.holder 0 == some 2) = true := by decide

/-- A closed target with a thread at `runStart`: the hypothesis `closed = false` of `C17_helpers_never_stuck` is needed
(the thread holds the lock and `runStart` is refused; a second thread waits for ever). -/
theorem X5 : chk [.spawnForever 1, .get1 1 false, .createAcq 1, .get2 1 false, .createRel 1, .lockAcq 1, .close,
      .spawnForever 2, .get1 2 true] (fun s =>
    s.closed && (s.thr 2).live && s.holder 0 == some 1 && !(step s (.runStart 1)).isSome &&
    !(step s (.lockAcq 2)).isSome && !(step s (.lockRel 1)).isSome && !(step s (.runEnd 1)).isSome) = true := by decide

/-- `C17_borrow_returns`: its three hypotheses hold together just before `ret 0` in the F7 run;
`C17_helper_steps_bounded` is tight: thread 10 took eight own steps. -/
def f7 : List Label :=
  [.call 0, .readRunning 0 false, .readClosed 0 false, .spawnBorrow 0 10,
   .get1 10 false, .createAcq 10, .get2 10 false, .createRel 10, .lockAcq 10, .runStart 10,
   .call 1, .readRunning 1 true, .awRun 0, .schedule 1, .runEnd 10, .lockRel 10]
theorem X6 : chk f7 (fun s => s.callers 0 == .waitPool 10 && s.thr 10 == .done && s.aw 0 == .finished &&
    (step s (.ret 0)).isSome) = true := by decide
theorem X6b : ownSteps 10 f7 = 8 := by decide

/-- `ret` is refused while the awaitable has not finished / the thread is not done (`C17_transparent` has content) -/
theorem X7 : chk borrowRunning (fun s => !(step s (.ret 0)).isSome && s.aw 0 == .scheduled) = true := by decide
theorem X7b : chk (borrowRunning ++ [.awRun 0]) (fun s => !(step s (.ret 0)).isSome && s.aw 0 == .finished) = true := by
  decide

/-- `C17_closed_raises` -/
theorem X8 : chk [.close, .call 0, .readRunning 0 false] (fun s =>
    (step s (.readClosed 0 true)).isSome && !(step s (.readClosed 0 false)).isSome) = true := by decide

/-- `C17_on_target` / `C17_completes_partial`: a scheduled awaitable with nobody running the target cannot move -/
theorem X9 : chk [.presched 0] (fun s => s.aw 0 == .scheduled && !(step s (.awRun 0)).isSome) = true := by decide

/-- The model carries no result values: what `C17_transparent` can say is only *when* a call returns.
`Aw` has three constructors, `CPc.returned` a Boolean. -/
example : ∀ a : Aw, a = .notScheduled ∨ a = .scheduled ∨ a = .finished := by intro a; cases a <;> simp

end AiutiVerif.CrossLoop

/-! ### "every *borrowing* `ensure_aw` call whose awaitable finishes returns" (DESIGN §7 C17, header of Progress.lean)
drops the `runsForever` exception of `C17_helpers_never_stuck`.  Caller 0 hands in a Task already scheduled on T, finds T
idle and borrows (thread 10); `loop_in_thread` (thread 11) gets the loop lock first and runs T; the Task finishes there.
Caller 0's awaitable has finished, its helper thread waits for the loop lock, and no helper move at all is enabled
(only the environment's `stopRequest` unblocks it). -/
namespace AiutiVerif.CrossLoop
def blocked : List Label :=
  [.presched 0, .call 0, .readRunning 0 false, .readClosed 0 false, .spawnBorrow 0 10,
   .spawnForever 11, .get1 11 false, .createAcq 11, .get2 11 false, .createRel 11, .lockAcq 11, .runStart 11,
   .get1 10 true, .awRun 0]

def sBlocked : St := (accepts {} blocked).getD {}

theorem Y1 : chk blocked (fun s => s.callers 0 == .waitPool 10 && s.aw 0 == .finished && s.thr 10 == .lockAcq 0 &&
    s.thr 11 == .running 0 && s.purpose 11 == .forever && !s.stopReq && !s.closed &&
    !(step s (.ret 0)).isSome && !(step s (.lockAcq 10)).isSome && !(step s (.runEnd 11)).isSome) = true := by decide

/-- in that state every helper move is refused -/
theorem Y2 : ∀ lb : Label, lb.helperMove = true → step sBlocked lb = none := by
  have hthr : ∀ t, sBlocked.thr t = if t = 10 then .lockAcq 0 else if t = 11 then .running 0 else .unused := by
    intro t
    by_cases h10 : t = 10
    · subst h10; decide
    · by_cases h11 : t = 11
      · subst h11; decide
      · simp only [h10, h11, if_false]
        show (upd (upd (upd (upd (upd (upd (upd (upd _ _ _) _ _) _ _) _ _) _ _) _ _) _ _) _ _) t = _
        simp [upd, h10, h11]
  have haw : ∀ c, sBlocked.aw c = if c = 0 then .finished else .notScheduled := by
    intro c
    by_cases h0 : c = 0
    · subst h0; decide
    · simp only [h0, if_false]
      show (upd (upd _ _ _) _ _) c = _
      simp [upd, h0]
  have key : ∀ t (p : TPc), (p ≠ .lockAcq 0 ∧ p ≠ .running 0 ∧ p ≠ .unused) → sBlocked.thr t ≠ p := by
    intro t p ⟨h1, h2, h3⟩ e
    rw [hthr] at e
    by_cases h10 : t = 10
    · simp [h10] at e; exact h1 e.symm
    · by_cases h11 : t = 11
      · simp [h11] at e; exact h2 e.symm
      · simp [h10, h11] at e; exact h3 e.symm
  intro lb hm
  cases lb <;> simp [Label.helperMove] at hm
  case awRun c => simp only [step]; rw [haw]; by_cases h0 : c = 0 <;> simp [h0]
  case get1 t f => simp only [step]; rw [if_neg (key t _ (by simp))]
  case createAcq t => simp only [step]; rw [if_neg (fun h => key t _ (by simp) h.1)]
  case get2 t f => simp only [step]; rw [if_neg (key t _ (by simp))]
  case createRel t =>
    simp only [step]; split
    · rename_i l h; exact absurd h (key t _ (by simp))
    · rfl
  case lockAcq t =>
    simp only [step]; split
    · rename_i l h
      rw [hthr] at h
      by_cases h10 : t = 10
      · simp [h10] at h; subst h
        have hh : sBlocked.holder 0 = some 11 := by decide
        simp [hh]
      · by_cases h11 : t = 11 <;> simp [h10, h11] at h
    · rfl
  case runStart t =>
    simp only [step]; split
    · rename_i l h; exact absurd h (key t _ (by simp))
    · rfl
  case runEnd t =>
    simp only [step]; split
    · rename_i l h
      rw [hthr] at h
      by_cases h10 : t = 10
      · simp [h10] at h
      · by_cases h11 : t = 11
        · subst h11; simp at h; subst h
          have hp : sBlocked.purpose 11 = .forever := by decide
          have hsr : sBlocked.stopReq = false := by decide
          simp [hp, hsr]
        · simp [h10, h11] at h
    · rfl
  case lockRel t =>
    simp only [step]; split
    · rename_i l h; exact absurd h (key t _ (by simp))
    · rfl
end AiutiVerif.CrossLoop
