import AiutiVerif.Cache.KeysProps
namespace AiutiVerif.Cache
def a : Sig := ⟨[1, 2], [(10, 5), (11, 6)]⟩
def a' : Sig := ⟨[1, 2], [(11, 6), (10, 5)]⟩
def b : Sig := ⟨[2, 1], [(10, 5), (11, 6)]⟩
-- hit: hypothesis of `C14_hit_no_invocation` met with a key that is equal, not identical
example : lookup (run [.call a]).store a' = some 0 := by decide
-- miss: hypothesis of `C14_miss_one_invocation` met in a non-empty store
example : lookup (run [.call a]).store b = none := by decide
-- evict through an equal key forgets; the other key stays (`C14_evict_forgets`, `C14_evict_only_that_key`)
example : keyEq a' a = true ∧ keyEq a' b = false ∧
    lookup (erase (run [.call a, .call b]).store a') a = none ∧ lookup (erase (run [.call a, .call b]).store a') b = some 1 := by
  decide
-- `C14_no_cross_talk` on a run whose store, rets and log are all non-empty
example : (run [.call a, .call a', .call b, .evict a', .call a]).rets.length = 4 ∧
    (run [.call a, .call a', .call b, .evict a', .call a]).store.length = 2 ∧
    (run [.call a, .call a', .call b, .evict a', .call a]).invLog = [a, b, a] := by decide
-- key_iff is about sets: a duplicated pair does not matter (names are not required to be distinct)
example : keyEq ⟨[], [(1, 1), (1, 1)]⟩ ⟨[], [(1, 1)]⟩ = true := by decide
end AiutiVerif.Cache
