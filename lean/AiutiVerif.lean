-- Root of the `AiutiVerif` library: the property modules and the driver glue; the models and lemmas come in through them.
import AiutiVerif.Split.Props
import AiutiVerif.Split.Drive
import AiutiVerif.Parse.Props
import AiutiVerif.Parse.Drive
import AiutiVerif.Gather.Props
import AiutiVerif.Gather.Drive
import AiutiVerif.Batcher.Drive
import AiutiVerif.Batcher.Props
import AiutiVerif.Decorators.Props
import AiutiVerif.Buffer.Drive
import AiutiVerif.Buffer.RunProps
import AiutiVerif.FileLock.Drive
import AiutiVerif.FileLock.C12All
import AiutiVerif.FileLock.SmallDrive
import AiutiVerif.Cache.KeysProps
import AiutiVerif.Cache.KeysDrive
import AiutiVerif.Bridge.Props
import AiutiVerif.Bridge.Drive
import AiutiVerif.CrossLoop.Progress
import AiutiVerif.CrossLoop.Drive
import AiutiVerif.Cache.Props
import AiutiVerif.Cache.Drive
