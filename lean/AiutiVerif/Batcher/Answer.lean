import AiutiVerif.Batcher.NoDup
/-!
# Nobody is left waiting for nothing (C04, "always answers"), for every program of inputs

A caller is suspended only on a future that is still unresolved, and every unresolved future is *in
flight*: its item sits in the queue, in the batch being assembled, in a batch waiting for a slot, or its
key is still in the dict of unanswered futures of a running batch — and the script of every running batch
ends with `fin` or `raise`, at which point `_process_batch` resolves whatever is left in that dict
(`C04_pump_is_runScript`, `C04_always_answers`).  So when nothing is in flight any more, nobody is waiting.
-/
namespace AiutiVerif.Batcher

/-- every running batch still has its terminal action ahead, and batch ids are not reused -/
def WB (s : St) : Prop := (∀ b ∈ s.running, endsT b.script = true) ∧ (s.running.map (·.id)).Nodup

/-- in flight = in the pipeline or in the dict of a running batch -/
structure W (s : St) (pipe : List Item) : Prop where
  waitOk : ∀ w ∈ s.waiting, futState s w.2 = none ∧ w.2 < s.futs.length
  inFlight : ∀ g, g < s.futs.length → futState s g = none →
    (∃ it ∈ pipe, it.fut = g) ∨ (∃ b ∈ s.running, ∃ e ∈ b.futs, e.2 = g)

theorem mem_resolve_waiting (s : St) (f : Nat) (o : Outcome) (w : Nat × Nat) :
    w ∈ (resolve s f o).waiting ↔ w ∈ s.waiting ∧ w.2 ≠ f := by
  show w ∈ s.waiting.filter (·.2 != f) ↔ _
  simp

theorem resolve_mono (g : Nat) (s : St) (f : Nat) (o : Outcome) (h : futState s g ≠ none) : futState (resolve s f o) g ≠ none := by
  rw [futState_resolve]
  split
  · nofun
  · exact h

theorem resolve_W (pipe : List Item) (s : St) (f : Nat) (o : Outcome) (h : W s pipe) : W (resolve s f o) pipe :=
  ⟨fun w hw =>
    have ⟨hm, hne⟩ := (mem_resolve_waiting s f o w).mp hw
    ⟨(futState_resolve_ne s f w.2 o hne).trans (h.waitOk w hm).1, futsLen_resolve s f o ▸ (h.waitOk w hm).2⟩,
   fun g hg hs => h.inFlight g (futsLen_resolve s f o ▸ hg) (Decidable.byContradiction fun hn => resolve_mono g s f o hn hs)⟩

theorem resolveList_resolved : ∀ (l : List (Nat × Outcome)) (s : St) (f : Nat), f ∈ l.map (·.1) → f < s.futs.length →
    futState (resolveList s l) f ≠ none
  | p :: l, s, f, h, hlt => by
    rw [resolveList_cons]
    by_cases hp : f = p.1
    · refine resolveList_induct (resolve_mono f) l _ ?_
      rw [futState_resolve, if_pos ⟨hp, hp ▸ hlt⟩]
      nofun
    · exact resolveList_resolved l _ f ((List.mem_cons.mp h).resolve_left hp) (futsLen_resolve s p.1 p.2 ▸ hlt)

theorem W.setRunning {s : St} {pipe : List Item} (h : W s pipe) (run' : List Batch)
    (hcov : ∀ b ∈ s.running, ∀ e ∈ b.futs, futState s e.2 ≠ none ∨ ∃ b' ∈ run', e ∈ b'.futs) :
    W { s with running := run' } pipe :=
  { h with
    inFlight := fun g hg hs => (h.inFlight g hg hs).imp_right fun ⟨b, hb, e, he, heq⟩ =>
      have ⟨b', hb', he'⟩ := (hcov b hb e he).resolve_left fun hres => hres (heq ▸ hs)
      ⟨b', hb', e, he', heq⟩ }

theorem enter_W {s : St} {pipe items : List Item} (bound : Nat) (hr : R s (items ++ pipe)) (hw : W s (items ++ pipe))
    (hwb : WB s) : W (enter s items bound) pipe ∧ WB (enter s items bound) := by
  obtain ⟨hr1, hrd⟩ := hr.dropFront
  have hb0f : (newBatch s items bound).futs = items.map fun it => (it.key, it.fut) := futsOf_eq items (hrd.keysNodup hr1)
  refine ⟨⟨hw.waitOk, fun g hg hs => ?_⟩, forall_mem_snoc hwb.1 (behaviour_endsT _ _ _ _), ?_⟩
  · rcases hw.inFlight g hg hs with ⟨it, hit, hitg⟩ | ⟨b, hb, e, he, heq⟩
    · rcases List.mem_append.mp hit with h | h
      · refine .inr ⟨newBatch s items bound, newBatch_mem _ _ _, (it.key, it.fut), ?_, hitg⟩
        rw [hb0f]
        exact List.mem_map.mpr ⟨it, h, rfl⟩
      · exact .inl ⟨it, h, hitg⟩
    · exact .inr ⟨b, List.mem_append_left _ hb, e, he, heq⟩
  · exact nodup_map_snoc (a := newBatch s items bound) hwb.2 fun x hx => Nat.ne_of_lt (hr.runIds x hx)

theorem runB_W {s : St} {pipe : List Item} (fuel : Nat) {b : Batch} (hr : R s pipe) (hrb : RB s) (hw : W s pipe)
    (hwb : WB s) (hb : b ∈ s.running) : W (runB fuel s b) pipe ∧ WB (runB fuel s b) := by
  obtain ⟨hk, hf, -⟩ := hrb b hb
  obtain ⟨hcov, hend⟩ := (pumpL_spec fuel s.now b hk hf).2 (hwb.1 b hb)
  have hsame := pumpL_same fuel s.now b
  unfold runB finish
  generalize pumpL fuel s.now b = r at hcov hend hsame
  obtain ⟨L, ob⟩ := r
  have hrun : (resolveList s L).running = s.running := (resolveList_frame L s).running
  -- `hcov`: every future of `b`'s dict has been answered by `L` or is still in the record `ob` that replaces `b`'s -
  -- which is what `W.setRunning` asks of the new list of running batches
  refine ⟨(resolveList_induct (resolve_W pipe) L s hw).setRunning _ fun x hx e he => ?_, fun y hy => ?_, ?_⟩
  · rw [hrun] at hx
    by_cases hid : x.id = b.id
    · rw [nodup_map_inj (·.id) hwb.2 hx hb hid] at he
      rcases hcov e he with h | h
      · exact .inl (resolveList_resolved L s e.2 h (hr.runRange b hb e he))
      · cases ob with
        | none => cases h
        | some b' => exact .inr ⟨b', mem_setBatch_some (hrun ▸ hb) rfl, h⟩
    · exact .inr ⟨x, mem_setBatch_of_ne (hrun ▸ hx) hid, he⟩
  · rcases mem_setBatch hy with rfl | ⟨hy, -⟩
    · exact hend y rfl
    · exact hwb.1 y (hrun ▸ hy)
  · exact ((setBatch_ids fun b' h => (hsame b' h).1).nodup (hrun ▸ hwb.2) : ((setBatch b.id _ ob).map (·.id)).Nodup)

/-- `W` and `WB` with `q` still to be taken from the queue. -/
def WI (s : St) (q : List Item) : Prop := W s (pipeline s q) ∧ WB s

theorem WI_step {l : Label} {s s' : St} {q q' : List Item} (st : Step l s q s' q') (hri : RI s q) (h : WI s q) :
    WI s' q' := by
  obtain ⟨hr, hrb⟩ := hri
  obtain ⟨hw, hwb⟩ := h
  cases st with
  | run fuel hbm => unfold WI; rw [pipeline_runB]; exact runB_W fuel hr hrb hw hwb hbm
  | release hs =>
    exact enter_W _ { (pipeline_release hs q ▸ hr) with } { (pipeline_release hs q ▸ hw) with } hwb
  | park hh => exact ⟨pipeline_park hh ▸ { hw with }, hwb⟩
  | extend => exact ⟨pipeline_extend s _ q' ▸ { hw with }, hwb⟩
  | take | tick | evict | served => exact ⟨{ hw with }, hwb⟩
  | @shares _ _ t cid arg key k f hfind hfs =>
    exact ⟨{ hw with waitOk := forall_mem_snoc hw.waitOk ⟨hfs, hr.retRange (k, f) (List.mem_of_find?_eq_some hfind)⟩ }, hwb⟩
  | fresh t cid arg key =>
    have hst := futState_fresh s cid arg key
    have hlen := futsLen_fresh s cid arg key
    unfold WI
    rw [pipeline_fresh]
    refine ⟨⟨forall_mem_snoc
        (fun w hwm => ⟨(hst _).trans (hw.waitOk w hwm).1, hlen ▸ Nat.lt_succ_of_lt (hw.waitOk w hwm).2⟩)
        ⟨(hst _).trans (futState_beyond (Nat.le_refl _)), hlen ▸ Nat.lt_succ_self _⟩, fun g hg hs => ?_⟩, hwb⟩
    rcases Nat.lt_succ_iff_lt_or_eq.mp (hlen ▸ hg) with hlt | rfl
    · exact (hw.inFlight g hlt ((hst g).symm.trans hs)).imp_left fun ⟨it, hit, e⟩ => ⟨it, List.mem_append_left _ hit, e⟩
    · exact .inl ⟨newItem s arg key, List.mem_concat_self, rfl⟩
  | cancel => exact ⟨{ hw with waitOk := fun w hwm => hw.waitOk w (List.mem_filter.mp hwm).1 }, hwb⟩
  | setMax t n => exact ⟨pipeline_setMax s n q ▸ { hw with }, hwb⟩

/-- `WI s s.queue`, written out (see `Jq`). -/
def Wq (s : St) : Prop := W s (flatI s.semWait ++ (asmI s ++ s.queue)) ∧ WB s

theorem Wq_steps {A : Label → Prop} {s s' : St} (h : Steps A s s.queue s' s'.queue) (hr : Rq s) (hw : Wq s) : Wq s' :=
  (h.induct (P := fun s q => RI s q ∧ WI s q) (fun st _ hp => ⟨RI_step st hp.1, WI_step st hp.1 hp.2⟩) ⟨hr, hw⟩).2

theorem foldl_applyIn_Wq (ins : List In) (s : St) (h : Rq s) (hw : Wq s) : Wq (ins.foldl applyIn s) :=
  Wq_steps (foldl_steps ins s) h hw

theorem runProgram_Wq (s : St) (ins : List In) (h : Rq s) (hw : Wq s) : Wq (runProgram s ins) :=
  Wq_steps (runProgram_steps s ins) h hw

def Fresh3 (s : St) : Prop := Fresh2 s ∧ s.waiting = []

theorem Wq_fresh (s : St) (h : Fresh3 s) : Wq s := by
  obtain ⟨⟨⟨h1, -⟩, -, -, a3⟩, hwt⟩ := h
  exact ⟨⟨by simp [hwt], by simp [a3]⟩, by simp [h1], by simp [h1]⟩

def Served (s : St) (c : Nat) : Prop := (∃ t o, Out.done t c o ∈ s.outs) ∨ (∃ f, (c, f) ∈ s.waiting)

def Mono (s s' : St) : Prop := ∀ c, Served s c → Served s' c

theorem Mono.refl (s : St) : Mono s s := fun _ h => h
theorem Mono.trans {a b c : St} (h1 : Mono a b) (h2 : Mono b c) : Mono a c := fun x h => h2 x (h1 x h)

/-- Whoever waited for the future that is answered is woken with a `done` event. -/
theorem resolve_Mono (s : St) (f : Nat) (o : Outcome) : Mono s (resolve s f o) := by
  rintro c (⟨t, o', hd⟩ | ⟨f', hw⟩)
  · exact .inl ⟨t, o', List.mem_append_left _ hd⟩
  · by_cases hf : f' = f
    · exact .inl ⟨s.now, o, List.mem_append_right _
        (List.mem_map.mpr ⟨(c, f'), List.mem_filter.mpr ⟨hw, by simp [hf]⟩, rfl⟩)⟩
    · exact .inr ⟨f', (mem_resolve_waiting s f o _).mpr ⟨hw, hf⟩⟩

theorem Served.outs {s s' : St} {c : Nat} (h : Served s c) (ho : ∀ x ∈ s.outs, x ∈ s'.outs) (hw : ∀ x ∈ s.waiting, x ∈ s'.waiting) :
    Served s' c :=
  h.imp (fun ⟨t, o, hd⟩ => ⟨t, o, ho _ hd⟩) (fun ⟨f, hf⟩ => ⟨f, hw _ hf⟩)

theorem Mono_step {l : Label} {s s' : St} {q q' : List Item} (st : Step l s q s' q') : Mono s s' := by
  have app : ∀ {α} (a b : List α), ∀ x ∈ a, x ∈ a ++ b := fun a b x h => List.mem_append_left b h
  cases st with
  | run => exact resolveList_induct (P := Mono s) (fun s' f o h => h.trans (resolve_Mono s' f o)) _ s (Mono.refl s)
  | release | served => exact fun c h => h.outs (app _ _) fun _ h => h
  | shares | fresh => exact fun c h => h.outs (fun _ h => h) (app _ _)
  | cancel t cid =>
    rintro c (⟨t', o, hd⟩ | ⟨f, hw⟩)
    · exact .inl ⟨t', o, List.mem_append_left _ hd⟩
    · by_cases hc : c = cid
      · exact .inl ⟨s.now, .cancelled, hc ▸ List.mem_concat_self⟩
      · exact .inr ⟨f, List.mem_filter.mpr ⟨hw, by simpa using hc⟩⟩
  | _ => exact fun _ h => h

theorem Mono_steps {A : Label → Prop} {s s' : St} {q q' : List Item} (h : Steps A s q s' q') : Mono s s' :=
  h.induct (P := fun s' _ => Mono s s') (fun st _ hp => hp.trans (Mono_step st)) (Mono.refl s)

theorem advance_Mono (fuel t : Nat) (strict : Bool) (s : St) : Mono s (advance fuel t strict s) :=
  Mono_steps (advance_steps t strict fuel s)

theorem call_Served (s : St) (t c arg key : Nat) : Served (applyIn s (.call t c arg key)) c := by
  rw [applyIn_eq]
  unfold stepIn
  simp only []
  split
  · split
    · exact .inl ⟨_, _, List.mem_concat_self⟩
    · exact .inr ⟨_, List.mem_concat_self⟩
  · exact .inr ⟨_, List.mem_concat_self⟩

theorem foldl_call_Served : ∀ (ins : List In) (s : St) (t c arg key : Nat), In.call t c arg key ∈ ins →
    Served (ins.foldl applyIn s) c
  | i :: r, s, t, c, arg, key, h => by
    rcases List.mem_cons.mp h with rfl | h
    · exact Mono_steps (foldl_steps r _) c (call_Served s t c arg key)
    · exact foldl_call_Served r _ t c arg key h

end AiutiVerif.Batcher
