import AiutiVerif.Batcher.Machine
/-!
# Cancelling callers disturbs nobody else (C09), for every program of inputs

`strip X s` forgets what belongs to the callers in `X`: their entries among the suspended callers and their `done`
records.  Every function of the machine commutes with `strip X` - nothing it does with the queue, the batches, the
futures, the retention table or the timers looks at who is waiting - and a `cancel` of a caller in `X` changes
nothing outside `X`.  Hence two programs that differ only in the cancellations of callers in `X` produce the same
batches at the same instants and give every caller outside `X` the same outcome at the same instant.
-/
namespace AiutiVerif.Batcher

def keepOut (X : Nat → Bool) : Out → Bool
  | .batch _ _ _ => true
  | .done _ c _ => !X c

def strip (X : Nat → Bool) (s : St) : St :=
  { s with waiting := s.waiting.filter (fun w => !X w.1), outs := s.outs.filter (keepOut X) }

theorem strip_idem (X : Nat → Bool) (s : St) : strip X (strip X s) = strip X s := by
  unfold strip
  simp [List.filter_filter]

theorem filter_comm {α} (p q : α → Bool) (l : List α) : (l.filter p).filter q = (l.filter q).filter p := by
  simp only [List.filter_filter, Bool.and_comm]

theorem strip_resolve (X : Nat → Bool) (s : St) (f : Nat) (o : Outcome) :
    strip X (resolve s f o) = resolve (strip X s) f o := by
  unfold strip resolve futKey
  simp only [St.mk.injEq, true_and, and_true, List.filter_append, List.filter_map]
  exact ⟨filter_comm _ _ _, by rw [filter_comm]; rfl⟩

theorem strip_resolveList (X : Nat → Bool) : ∀ (l : List (Nat × Outcome)) (s : St),
    strip X (resolveList s l) = resolveList (strip X s) l
  | [], _ => rfl
  | p :: l, s => by rw [resolveList_cons, strip_resolveList X l, strip_resolve, resolveList_cons]

theorem strip_runB (X : Nat → Bool) (fuel : Nat) (s : St) (b : Batch) :
    strip X (runB fuel s b) = runB fuel (strip X s) b := by
  unfold runB
  rw [← strip_resolveList]
  rfl

theorem strip_enter (X : Nat → Bool) (s : St) (items : List Item) (bound : Nat) :
    strip X (enter s items bound) = enter (strip X s) items bound := by
  unfold enter strip
  simp [List.filter_append, keepOut, newBatch]

theorem strip_startBatch (X : Nat → Bool) (fuel : Nat) (s : St) (items : List Item) (bound : Nat) :
    strip X (startBatch fuel s items bound) = startBatch fuel (strip X s) items bound := by
  rw [startBatch_eq, startBatch_eq, strip_runB, strip_enter]
  rfl

theorem strip_releaseSlots (X : Nat → Bool) : ∀ (fuel : Nat) (s : St),
    strip X (releaseSlots fuel s) = releaseSlots fuel (strip X s)
  | 0, _ => rfl
  | fuel + 1, s => by
    unfold releaseSlots
    rw [show (strip X s).semWait = s.semWait from rfl, show (strip X s).running = s.running from rfl,
      show (strip X s).maxc = s.maxc from rfl]
    split
    · rfl
    · split
      · rw [strip_releaseSlots X fuel, strip_startBatch]
        rfl
      · rfl

theorem strip_dispatch (X : Nat → Bool) (fuel : Nat) (s : St) (a : Asm) :
    strip X (dispatch fuel s a) = dispatch fuel (strip X s) a := by
  unfold dispatch
  simp only []
  rw [show (strip X s).semWait = s.semWait from rfl, show (strip X s).running = s.running from rfl,
    show (strip X s).maxc = s.maxc from rfl]
  split
  · rw [strip_releaseSlots, strip_startBatch]
    rfl
  · rfl

theorem strip_assemble (X : Nat → Bool) (fuel : Nat) : ∀ (items : List Item) (s : St),
    strip X (assemble fuel items s) = assemble fuel items (strip X s)
  | [], _ => rfl
  | it :: rest, s => by
    rw [assemble_cons, assemble_cons, show ext (strip X s) it = ext s it from rfl,
      show (strip X s).maxb = s.maxb from rfl]
    split
    · rw [strip_assemble X fuel rest, strip_dispatch]
    · rw [strip_assemble X fuel rest]
      rfl

theorem strip_fireCore (X : Nat → Bool) (fuel : Nat) (s : St) (when : Nat) (ev : Ev) :
    strip X (fireCore fuel s when ev) = fireCore fuel (strip X s) when ev := by
  cases ev with
  | assemble => exact strip_assemble X fuel s.queue _
  | deadline =>
    unfold fireCore
    simp only []
    rw [show (strip X s).asm = s.asm from rfl]
    split
    · rw [strip_dispatch]
    · rfl
  | pumpB id =>
    cases hb : s.running.find? (·.id == id) with
    | none => unfold fireCore; simp only [hb, show (strip X s).running = s.running from rfl]
    | some b =>
      rw [fireCore_pumpB fuel s when id b hb, fireCore_pumpB fuel (strip X s) when id b hb,
        show (strip X s).now = s.now from rfl]
      split
      · exact strip_runB X fuel s b
      · rw [strip_releaseSlots, strip_runB]
  | evictK => rfl

theorem strip_fire (X : Nat → Bool) (fuel : Nat) (s : St) (when : Nat) (ev : Ev) :
    strip X (fire fuel s when ev) = fire fuel (strip X s) when ev := by
  rw [fire_eq, fire_eq, strip_fireCore]
  rfl

theorem candidates_strip (X : Nat → Bool) (s : St) : candidates (strip X s) = candidates s := rfl

theorem strip_advance (X : Nat → Bool) : ∀ (fuel t : Nat) (strict : Bool) (s : St),
    strip X (advance fuel t strict s) = advance fuel t strict (strip X s)
  | 0, _, _, _ => rfl
  | fuel + 1, t, strict, s => by
    unfold advance
    rw [candidates_strip]
    split
    · rfl
    · split
      · rw [strip_advance X fuel, strip_fire]
      · rfl

theorem strip_arrive (X : Nat → Bool) (s : St) (t : Nat) : strip X (arrive s t) = arrive (strip X s) t := by
  unfold arrive
  simp only []
  rw [← strip_advance, candidates_strip]
  rfl

theorem find?_strip (X : Nat → Bool) (s : St) (cid : Nat) :
    (strip X s).waiting.find? (·.1 == cid) = if X cid then none else s.waiting.find? (·.1 == cid) := by
  show (s.waiting.filter _).find? _ = _
  rw [List.find?_filter]
  split <;> rename_i hx
  · exact List.find?_eq_none.mpr fun w _ => by by_cases h : w.1 = cid <;> simp [h, hx]
  · congr 1
    funext w
    by_cases h : w.1 = cid <;> simp [h, hx]

theorem strip_stepIn (X : Nat → Bool) (s : St) (i : In) : strip X (stepIn s i) = strip X (stepIn (strip X s) i) := by
  cases i with
  | call t cid arg =>
    simp only [stepIn, show (strip X s).retention = s.retention from rfl, show ∀ f, futState (strip X s) f = futState s f from fun _ => rfl]
    split
    · split <;> simp [strip, List.filter_append, List.filter_filter]
    · simp [strip, List.filter_append, List.filter_filter]
  | cancel t cid =>
    simp only [stepIn, find?_strip]
    cases hx : X cid with
    | true =>
      -- the cancelled caller is in `X`: nothing of it survives `strip`
      simp only [if_true, strip_idem]
      split
      · simp only [strip, St.mk.injEq, true_and, and_true, List.filter_append, List.filter_filter]
        exact ⟨List.filter_congr fun w _ => by by_cases h : w.1 = cid <;> simp [h, hx], by simp [keepOut, hx]⟩
      · rfl
    | false =>
      simp only [Bool.false_eq_true, if_false]
      cases s.waiting.find? (·.1 == cid) with
      | some =>
        simp only [strip, St.mk.injEq, true_and, and_true, List.filter_append, List.filter_filter]
        exact ⟨List.filter_congr fun w _ => by cases X w.1 <;> simp, by simp⟩
      | none => exact (strip_idem X s).symm
  | setMax t n => simp [stepIn, strip, List.filter_filter]

theorem strip_applyIn (X : Nat → Bool) (s1 s2 : St) (i : In) (h : strip X s1 = strip X s2) :
    strip X (applyIn s1 i) = strip X (applyIn s2 i) := by
  rw [applyIn_eq, applyIn_eq, strip_stepIn X (arrive s1 i.time), strip_stepIn X (arrive s2 i.time),
    strip_arrive, strip_arrive, h]

theorem strip_cancel (X : Nat → Bool) (s : St) (t c : Nat) (hx : X c = true) :
    strip X (applyIn s (.cancel t c)) = strip X (arrive s t) := by
  rw [applyIn_eq, strip_stepIn]
  simp only [stepIn, In.time, find?_strip, hx, if_true]
  exact strip_idem X _

/-- Two programs that differ only in *which* callers of `X` are cancelled at the cancellation
positions (cancelling a caller id that never called is a no-op, so this includes "cancelled"
against "not cancelled at all"). -/
inductive CancelVariant (X : Nat → Bool) : List In → List In → Prop
  | nil : CancelVariant X [] []
  | same (i : In) {a b : List In} : CancelVariant X a b → CancelVariant X (i :: a) (i :: b)
  | cancels (t c1 c2 : Nat) {a b : List In} : X c1 = true → X c2 = true → CancelVariant X a b →
      CancelVariant X (.cancel t c1 :: a) (.cancel t c2 :: b)

theorem strip_foldl (X : Nat → Bool) {a b : List In} (h : CancelVariant X a b) :
    ∀ s1 s2 : St, strip X s1 = strip X s2 →
      strip X (a.foldl applyIn s1) = strip X (b.foldl applyIn s2) := by
  induction h with
  | nil => intro s1 s2 h; exact h
  | same i _ ih =>
    intro s1 s2 h
    exact ih _ _ (strip_applyIn X s1 s2 i h)
  | cancels t c1 c2 h1 h2 _ ih =>
    intro s1 s2 h
    apply ih
    rw [strip_cancel X s1 t c1 h1, strip_cancel X s2 t c2 h2, strip_arrive, strip_arrive, h]

theorem strip_runProgram (X : Nat → Bool) {a b : List In} (h : CancelVariant X a b) (s : St) :
    strip X (runProgram s a) = strip X (runProgram s b) := by
  unfold runProgram
  rw [strip_advance, strip_advance, strip_foldl X h s s rfl]

theorem CancelVariant.refl (X : Nat → Bool) : ∀ l : List In, CancelVariant X l l
  | [] => .nil
  | i :: r => .same i (CancelVariant.refl X r)

theorem strip_call_hit (X : Nat → Bool) (s : St) (t c arg key : Nat) (hx : X c = true)
    (hhit : ((arrive s t).retention.find? (·.1 == key)).isSome = true) :
    strip X (applyIn s (.call t c arg key)) = strip X (arrive s t) := by
  rw [applyIn_eq]
  show strip X (stepIn (arrive s t) (.call t c arg key)) = _
  generalize arrive s t = s1 at hhit
  obtain ⟨kf, hf⟩ := Option.isSome_iff_exists.mp hhit
  simp only [stepIn, hf]
  split <;> simp [strip, List.filter_append, keepOut, hx]

theorem strip_sharer (X : Nat → Bool) (s0 : St) (a b : List In) (t c arg key : Nat) (hx : X c = true)
    (hhit : ((arrive (a.foldl applyIn s0) t).retention.find? (·.1 == key)).isSome = true) :
    strip X (runProgram s0 (a ++ [In.call t c arg key] ++ b)) = strip X (runProgram s0 (a ++ [In.cancel t c] ++ b)) := by
  unfold runProgram
  rw [strip_advance, strip_advance]
  congr 1
  simp only [List.foldl_append, List.foldl_cons, List.foldl_nil]
  apply strip_foldl X (CancelVariant.refl X b)
  rw [strip_call_hit X _ t c arg key hx hhit, strip_cancel X _ t c hx]

end AiutiVerif.Batcher
