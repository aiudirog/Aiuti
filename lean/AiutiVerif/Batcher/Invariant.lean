import AiutiVerif.Batcher.Machine
import AiutiVerif.Core.ListLemmas
/-!
# Machine-level invariant of the batcher (C10: size, slots, FIFO)

For **every** input history and every fuel: the batches handed to the batch function are
non-empty and within the limit in force while they were assembled, never more than
`max_concurrent_batches` run at once, and the queued calls reach the batch function in arrival
order (`started ++ waiting-for-a-slot ++ being-assembled ++ queued = arrivals`).
-/
namespace AiutiVerif.Batcher

/-- `bound` = the largest `max_batch_size` in force while the `n` items were assembled; `max 1` because
`_get_next_batch` always takes the first item, so that a limit of 0 acts as 1; `M` bounds every limit there ever was
(`Jq_fresh`, `setsWithin`). -/
def okSize (M n bound : Nat) : Prop := 1 ≤ n ∧ n ≤ max 1 bound ∧ bound ≤ M

/-- Sizes of the batches announced in the output (what the differential check compares). -/
def outSizes (outs : List Out) : List Nat :=
  outs.filterMap fun o => match o with
    | .batch _ _ keys => some keys.length
    | .done _ _ _ => none

def flatW (w : List (List Item × Nat)) : List Nat := (w.map fun p => p.1.map Item.fut).flatten

def asmFuts (s : St) : List Nat :=
  match s.asm with
  | some a => a.items.map Item.fut
  | none => []

/-- `q` = what `_get_next_batch` still has to take from the queue. -/
structure J (M : Nat) (s : St) (q : List Item) : Prop where
  runOk : ∀ b ∈ s.running, okSize M b.items.length b.bound
  waitOk : ∀ p ∈ s.semWait, okSize M p.1.length p.2
  asmOk : ∀ a, s.asm = some a → 1 ≤ a.items.length ∧ a.items.length < a.bound ∧ a.bound ≤ M
  maxbOk : s.maxb ≤ M
  logOuts : outSizes s.outs = s.batchLog.map (·.1)
  slots : s.running.length ≤ s.maxc
  logOk : ∀ p ∈ s.batchLog, okSize M p.1 p.2
  fifo : s.started ++ flatW s.semWait ++ asmFuts s ++ q.map Item.fut = s.arrivals

/-- Steps that only touch futures, callers, `done` outputs, retention and timers. -/
structure Frame (s s' : St) : Prop where
  running : s'.running = s.running
  semWait : s'.semWait = s.semWait
  asm : s'.asm = s.asm
  queue : s'.queue = s.queue
  arrivals : s'.arrivals = s.arrivals
  started : s'.started = s.started
  maxb : s'.maxb = s.maxb
  maxc : s'.maxc = s.maxc
  nb : s'.nb = s.nb
  now : s'.now = s.now
  bt : s'.bt = s.bt
  plan : s'.plan = s.plan
  seen : s'.seen = s.seen
  batchLog : s'.batchLog = s.batchLog
  outsz : outSizes s'.outs = outSizes s.outs

theorem Frame.refl (s : St) : Frame s s := ⟨rfl, rfl, rfl, rfl, rfl, rfl, rfl, rfl, rfl, rfl, rfl, rfl, rfl, rfl, rfl⟩

theorem Frame.trans {a b c : St} (h1 : Frame a b) (h2 : Frame b c) : Frame a c :=
  ⟨h2.running.trans h1.running, h2.semWait.trans h1.semWait, h2.asm.trans h1.asm, h2.queue.trans h1.queue,
   h2.arrivals.trans h1.arrivals, h2.started.trans h1.started, h2.maxb.trans h1.maxb, h2.maxc.trans h1.maxc,
   h2.nb.trans h1.nb, h2.now.trans h1.now, h2.bt.trans h1.bt, h2.plan.trans h1.plan, h2.seen.trans h1.seen,
   h2.batchLog.trans h1.batchLog, h2.outsz.trans h1.outsz⟩

theorem outSizes_append (a b : List Out) : outSizes (a ++ b) = outSizes a ++ outSizes b := by
  simp [outSizes, List.filterMap_append]

theorem outSizes_done (l : List (Nat × Nat)) (t : Nat) (o : Outcome) :
    outSizes (l.map fun w => Out.done t w.1 o) = [] := by
  simp [outSizes]

theorem resolve_frame (s : St) (f : Nat) (o : Outcome) : Frame s (resolve s f o) :=
  ⟨rfl, rfl, rfl, rfl, rfl, rfl, rfl, rfl, rfl, rfl, rfl, rfl, rfl, rfl, by
    simp only [resolve, outSizes_append, outSizes_done, List.append_nil]⟩

theorem resolveList_frame (l : List (Nat × Outcome)) (s : St) : Frame s (resolveList s l) :=
  resolveList_induct (P := Frame s) (fun s' f o h => h.trans (resolve_frame s' f o)) l s (Frame.refl s)

theorem J.of_frame {M : Nat} {s s' : St} {q : List Item} (h : J M s q) (f : Frame s s') : J M s' q :=
  ⟨f.running ▸ h.runOk, f.semWait ▸ h.waitOk, f.asm ▸ h.asmOk, f.maxb ▸ h.maxbOk, by rw [f.outsz, f.batchLog]; exact h.logOuts,
    by rw [f.running, f.maxc]; exact h.slots, f.batchLog ▸ h.logOk,
    by unfold asmFuts; rw [f.started, f.semWait, f.asm, f.arrivals]; exact h.fifo⟩

variable {M : Nat}

theorem pump_spec (fuel : Nat) (s : St) (b : Batch) :
    Frame s (pump fuel s b).1 ∧
    ∀ b', (pump fuel s b).2 = some b' → b'.items = b.items ∧ b'.bound = b.bound ∧ b'.id = b.id := by
  rw [pump_eq]
  exact ⟨resolveList_frame _ s, fun b' h => have ⟨a, b, c⟩ := pumpL_same fuel s.now b b' h; ⟨b, c, a⟩⟩

theorem flatW_cons (p : List Item × Nat) (r : List (List Item × Nat)) :
    flatW (p :: r) = p.1.map Item.fut ++ flatW r := by simp [flatW]
theorem flatW_append (a b : List (List Item × Nat)) : flatW (a ++ b) = flatW a ++ flatW b := by
  simp [flatW]
theorem flatW_nil : flatW [] = [] := rfl

theorem ext_futs (s : St) (it : Item) : (ext s it).items.map Item.fut = asmFuts s ++ [it.fut] := by
  unfold ext asmFuts
  cases s.asm <;> simp

theorem J.ext_ok {s : St} {q : List Item} (h : J M s q) (it : Item) :
    okSize M (ext s it).items.length (ext s it).bound ∧ s.maxb ≤ (ext s it).bound := by
  have hM := h.maxbOk
  unfold ext okSize
  cases hasm : s.asm with
  | none => simp only [List.length_singleton]; omega
  | some a0 =>
    have := h.asmOk a0 hasm
    simp only [List.length_append, List.length_singleton]
    omega

theorem J.hand {s : St} {q q' : List Item} {a : Asm} (h : J M s q) (hh : Hand s q a q') :
    okSize M a.items.length a.bound ∧ a.items.map Item.fut ++ q'.map Item.fut = asmFuts s ++ q.map Item.fut := by
  cases hh with
  | timeout hasm =>
    have := h.asmOk _ hasm
    exact ⟨by simp only [okSize]; omega, by simp only [asmFuts, hasm]⟩
  | @full it => exact ⟨(h.ext_ok it).1, by rw [ext_futs]; simp⟩

/-- `started` is the only field that tells `s0`, which holds the batch's items in hand, from a state that has handed
them over. -/
theorem J.enter {s0 : St} {q items : List Item} {bound : Nat}
    (h : J M { s0 with started := s0.started ++ items.map Item.fut } q) (hok : okSize M items.length bound)
    (hlt : s0.running.length < s0.maxc) : J M (enter s0 items bound) q :=
  { h with
    runOk := forall_mem_snoc h.runOk hok
    logOk := forall_mem_snoc h.logOk hok
    slots := (List.length_append ▸ hlt : (s0.running ++ [newBatch s0 items bound]).length ≤ s0.maxc)
    logOuts := by
      show outSizes (s0.outs ++ [Out.batch s0.now s0.nb (items.map Item.key)]) = (s0.batchLog ++ [(items.length, bound)]).map (·.1)
      rw [outSizes_append, List.map_append, ← h.logOuts]
      simp [outSizes] }

theorem J.finish {s : St} {q : List Item} (h : J M s q) (id : Nat) (ob : Option Batch)
    (hb : ∀ b', ob = some b' → okSize M b'.items.length b'.bound) : J M (finish id s ob) q :=
  { h with
    runOk := fun x hx => (mem_setBatch hx).elim (fun e => hb x e) fun hx => h.runOk x hx.1
    slots := Nat.le_trans (length_setBatch_le _ _ _) h.slots }

theorem outSizes_snoc_done (outs : List Out) (t c : Nat) (o : Outcome) :
    outSizes (outs ++ [Out.done t c o]) = outSizes outs := by
  simp [outSizes]

theorem J_step {l : Label} {s s' : St} {q q' : List Item} (st : Step l s q s' q')
    (hl : ∀ t n, l = .input (.setMax t n) → n ≤ M) (h : J M s q) : J M s' q' := by
  have hf := h.fifo
  cases st with
  | @run fuel _ _ b hb =>
    refine (h.of_frame (resolveList_frame _ s)).finish _ _ fun b' hb' => ?_
    obtain ⟨_, hi, hbd⟩ := pumpL_same fuel s.now b b' hb'
    rw [hi, hbd]
    exact h.runOk b hb
  | @release _ _ items bound rest hw hlt =>
    rw [hw, flatW_cons] at hf
    exact J.enter { h with
        waitOk := fun p hp => h.waitOk p (hw ▸ List.mem_cons_of_mem _ hp)
        fifo := by simpa [asmFuts, List.append_assoc] using hf }
      (h.waitOk (items, bound) (hw ▸ List.mem_cons_self)) hlt
  | park hh =>
    obtain ⟨hok, hq⟩ := h.hand hh
    rw [List.append_assoc, ← hq] at hf
    exact { h with
      waitOk := forall_mem_snoc h.waitOk hok
      asmOk := fun _ ha => nomatch ha
      fifo := by simpa [asmFuts, flatW_append, flatW_cons, flatW_nil, List.append_assoc] using hf }
  | @extend _ it =>
    refine { h with asmOk := fun a ha => ?_, fifo := by simpa [asmFuts, ext_futs, List.append_assoc] using hf }
    cases ha
    have := h.ext_ok it
    simp only [okSize] at this
    omega
  | take | tick | evict | shares => exact { h with }
  | served | cancel => exact { h with logOuts := (outSizes_snoc_done _ _ _ _).trans h.logOuts }
  | fresh t cid arg key =>
    refine { h with fifo := ?_ }
    show s.started ++ flatW s.semWait ++ asmFuts s ++ (q ++ [newItem s arg key]).map Item.fut = s.arrivals ++ [s.futs.length]
    rw [← hf, List.map_append, ← List.append_assoc]
    rfl
  | setMax t n =>
    refine { h with maxbOk := hl t n rfl, asmOk := fun a ha => ?_, fifo := ?_ }
    · obtain ⟨a0, hasm, rfl⟩ := Option.map_eq_some_iff.mp ha
      have := h.asmOk a0 hasm
      have := hl t n rfl
      simp only []
      omega
    · unfold asmFuts at hf ⊢
      cases hasm : s.asm <;> simpa [hasm] using hf

/-- `J_steps` needs `Jq M s` to unfold to `J M s s.queue`, hence an `abbrev`; `Rq` and `Wq` are written out and unfold
to `RI s s.queue`, `WI s s.queue` in the same way. -/
abbrev Jq (M : Nat) (s : St) : Prop := J M s s.queue

def setsWithin (M : Nat) (ins : List In) : Prop := ∀ t n, In.setMax t n ∈ ins → n ≤ M

theorem J_steps {ins : List In} {s s' : St} (h : Steps (Of ins) s s.queue s' s'.queue) (hw : setsWithin M ins) :
    Jq M s → Jq M s' :=
  h.induct (P := J M) fun st hl => J_step st fun t n e => hw t n (by subst e; exact hl)

theorem foldl_applyIn_J (ins : List In) (s : St) (h : Jq M s) (hw : setsWithin M ins) : Jq M (ins.foldl applyIn s) :=
  J_steps (foldl_steps ins s) hw h

theorem runProgram_J (s : St) (ins : List In) (h : Jq M s) (hw : setsWithin M ins) : Jq M (runProgram s ins) :=
  J_steps (runProgram_steps s ins) hw h

def Fresh (s : St) : Prop :=
  s.running = [] ∧ s.semWait = [] ∧ s.asm = none ∧ s.queue = [] ∧ s.outs = [] ∧ s.batchLog = [] ∧
  s.started = [] ∧ s.arrivals = []

theorem Jq_fresh (s : St) (h : Fresh s) (hM : s.maxb ≤ M) : Jq M s := by
  obtain ⟨h1, h2, h3, h4, h5, h6, h7, h8⟩ := h
  exact ⟨by simp [h1], by simp [h2], by simp [h3], hM, by rw [h5, h6]; rfl, by simp [h1], by simp [h6],
    by simp [asmFuts, h7, h2, h3, h4, h8, flatW]⟩

theorem advance_maxc (fuel t : Nat) (strict : Bool) (s : St) : (advance fuel t strict s).maxc = s.maxc :=
  (advance_steps t strict fuel s).config.1

theorem foldl_applyIn_maxc (ins : List In) (s : St) : (ins.foldl applyIn s).maxc = s.maxc :=
  (foldl_steps ins s).config.1

end AiutiVerif.Batcher
