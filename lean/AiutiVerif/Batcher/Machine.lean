import AiutiVerif.Batcher.PumpRS
/-!
# What the machine is made of

Every function of `Model.lean` from `pump` to `runProgram` is a sequence of a few primitive moves (`Step`), each
carrying what the code has just tested (`runProgram_steps` and its companions); an invariant is proved by showing
that every `Step` keeps it (`Steps.induct`).  `q` is what `_get_next_batch` has taken from the queue and not yet
looked at; between two events it is `s.queue`.
-/
namespace AiutiVerif.Batcher

def newBatch (s : St) (items : List Item) (bound : Nat) : Batch :=
  let script := (behaviour s.plan s.nb (items.map fun it => (it.key, it.arg)) s.seen).1
  { id := s.nb, items := items, futs := futsOf items, script := script,
    next := s.now + (script.head?.map (·.1)).getD 0, bound := bound }

/-- The batch function is entered: the new batch occupies a slot and has not acted yet. -/
def enter (s : St) (items : List Item) (bound : Nat) : St :=
  { s with nb := s.nb + 1,
           seen := (behaviour s.plan s.nb (items.map fun it => (it.key, it.arg)) s.seen).2,
           outs := s.outs ++ [Out.batch s.now s.nb (items.map Item.key)],
           started := s.started ++ items.map Item.fut,
           batchLog := s.batchLog ++ [(items.length, bound)],
           running := s.running ++ [newBatch s items bound] }

def setBatch (id : Nat) (run : List Batch) : Option Batch → List Batch
  | some b' => run.map fun x => if x.id == id then b' else x
  | none => run.filter (·.id != id)

def finish (id : Nat) (s : St) (ob : Option Batch) : St := { s with running := setBatch id s.running ob }

theorem mem_setBatch {id : Nat} {run : List Batch} {ob : Option Batch} {y : Batch} (h : y ∈ setBatch id run ob) :
    ob = some y ∨ (y ∈ run ∧ y.id ≠ id) := by
  cases ob with
  | some =>
    obtain ⟨x, hx, rfl⟩ := List.mem_map.mp h
    split
    · exact .inl rfl
    · rename_i hne; exact .inr ⟨hx, by simpa using hne⟩
  | none => exact .inr ⟨(List.mem_filter.mp h).1, by simpa using (List.mem_filter.mp h).2⟩

theorem mem_setBatch_of_ne {id : Nat} {run : List Batch} {ob : Option Batch} {x : Batch} (hx : x ∈ run) (hne : x.id ≠ id) :
    x ∈ setBatch id run ob := by
  cases ob with
  | some => exact List.mem_map.mpr ⟨x, hx, by simp [hne]⟩
  | none => exact List.mem_filter.mpr ⟨hx, by simpa using hne⟩

theorem mem_setBatch_some {id : Nat} {run : List Batch} {b' x : Batch} (hx : x ∈ run) (hid : x.id = id) :
    b' ∈ setBatch id run (some b') :=
  List.mem_map.mpr ⟨x, hx, by simp [hid]⟩

theorem setBatch_ids {id : Nat} {run : List Batch} {ob : Option Batch} (hid : ∀ b', ob = some b' → b'.id = id) :
    ((setBatch id run ob).map (·.id)).Sublist (run.map (·.id)) := by
  cases ob with
  | some b' =>
    have : (setBatch id run (some b')).map (·.id) = run.map (·.id) := by
      rw [setBatch, List.map_map]
      exact List.map_congr_left fun x _ => by have := hid b' rfl; grind
    exact this ▸ List.Sublist.refl _
  | none => exact List.filter_sublist.map _

theorem length_setBatch_le (id : Nat) (run : List Batch) (ob : Option Batch) : (setBatch id run ob).length ≤ run.length := by
  cases ob with
  | some => exact Nat.le_of_eq (List.length_map _)
  | none => exact List.length_filter_le _ _

def runB (fuel : Nat) (s : St) (b : Batch) : St :=
  finish b.id (resolveList s (pumpL fuel s.now b).1) (pumpL fuel s.now b).2

theorem startBatch_eq (fuel : Nat) (s : St) (items : List Item) (bound : Nat) :
    startBatch fuel s items bound = runB fuel (enter s items bound) (newBatch s items bound) := by
  unfold startBatch runB enter newBatch
  simp only [pump_eq]
  generalize hp : pumpL fuel s.now _ = r
  obtain ⟨L, ob⟩ := r
  cases ob with
  | none => rfl
  | some b' =>
    have := (pumpL_same _ _ _ b' (by rw [hp])).1
    simp only [finish, setBatch, this]

def newItem (s : St) (arg key : Nat) : Item := { key := key, arg := arg, fut := s.futs.length }

def freshSt (s : St) (cid arg key : Nat) : St :=
  { s with futs := s.futs ++ [(key, none)], retention := s.retention ++ [(key, s.futs.length)],
           waiting := s.waiting ++ [(cid, s.futs.length)], arrivals := s.arrivals ++ [s.futs.length],
           queue := s.queue ++ [newItem s arg key], qtime := if s.queue.isEmpty then s.now else s.qtime }

/-- What an input does once the clock has been advanced. -/
def stepIn (s : St) (i : In) : St :=
  match i with
  | .call _ cid arg key =>
    match s.retention.find? (·.1 == key) with
    | some (_, f) =>
      match futState s f with
      | some o => { s with outs := s.outs ++ [Out.done s.now cid o] }
      | none => { s with waiting := s.waiting ++ [(cid, f)] }
    | none =>
      let f := s.futs.length
      let it : Item := { key := key, arg := arg, fut := f }
      { s with futs := s.futs ++ [(key, none)], retention := s.retention ++ [(key, f)],
               waiting := s.waiting ++ [(cid, f)], arrivals := s.arrivals ++ [f],
               queue := s.queue ++ [it], qtime := if s.queue.isEmpty then s.now else s.qtime }
  | .cancel _ cid =>
    match s.waiting.find? (·.1 == cid) with
    | some _ => { s with waiting := s.waiting.filter (·.1 != cid),
                         outs := s.outs ++ [Out.done s.now cid .cancelled] }
    | none => s
  | .setMax _ n =>
    { s with maxb := n, asm := s.asm.map fun a => { a with bound := max a.bound n } }

theorem applyIn_eq (s : St) (i : In) : applyIn s i = stepIn (arrive s i.time) i := by
  unfold applyIn stepIn
  cases i <;> rfl

def evictSt (s : St) (when key : Nat) : St :=
  { s with evict := s.evict.filter (fun e => !(e.1 == when && e.2 == key)) ++
                      ((s.evict.filter (fun e => e.1 == when && e.2 == key)).drop 1),
           retention := eraseKey s.retention key }

/-- The assembly after item `it` has joined it. -/
def ext (s : St) (it : Item) : Asm :=
  match s.asm with
  | none => { items := [it], deadline := s.now + s.bt, bound := s.maxb }
  | some a => { items := a.items ++ [it], deadline := s.now + s.bt, bound := max a.bound s.maxb }

theorem assemble_cons (fuel : Nat) (it : Item) (rest : List Item) (s : St) :
    assemble fuel (it :: rest) s =
      if (ext s it).items.length ≥ s.maxb then assemble fuel rest (dispatch fuel s (ext s it))
      else assemble fuel rest { s with asm := some (ext s it) } := rfl

inductive Label where
  | tau
  | evict (when key : Nat)
  | input (i : In)

/-- `_get_next_batch` hands over `a`: the open assembly at its deadline, or the one the next item has just filled;
`q`, `q'` = still to be taken from the queue before and after. -/
inductive Hand (s : St) : List Item → Asm → List Item → Prop where
  | timeout {a : Asm} {q : List Item} : s.asm = some a → Hand s q a q
  | full {it : Item} {q : List Item} : (ext s it).items.length ≥ s.maxb → Hand s (it :: q) (ext s it) q

inductive Step : Label → St → List Item → St → List Item → Prop where
  /-- a running batch performs the actions that are due -/
  | run (fuel : Nat) {s : St} {q : List Item} {b : Batch} : b ∈ s.running → Step .tau s q (runB fuel s b) q
  /-- the semaphore lets the longest-waiting batch in -/
  | release {s : St} {q : List Item} {items : List Item} {bound : Nat} {rest : List (List Item × Nat)} :
      s.semWait = (items, bound) :: rest → s.running.length < s.maxc →
      Step .tau s q (enter { s with semWait := rest } items bound) q
  /-- `_get_next_batch` returns: the batch joins those waiting for a slot (and is let in at once, by `release`, if one
  is free and nobody is ahead of it) -/
  | park {s : St} {q q' : List Item} {a : Asm} : Hand s q a q' →
      Step .tau s q { s with asm := none, semWait := s.semWait ++ [(a.items, a.bound)] } q'
  /-- the next item joins the assembly, which stays open -/
  | extend {s : St} {it : Item} {q : List Item} : (ext s it).items.length < s.maxb →
      Step .tau s (it :: q) { s with asm := some (ext s it) } q
  /-- `_get_next_batch` takes everything that is in the queue -/
  | take {s : St} {q : List Item} : Step .tau s q { s with queue := [] } q
  | tick {s : St} {q : List Item} (n : Nat) (tie : Bool) : s.now ≤ n → Step .tau s q { s with now := n, tie := tie } q
  | evict {s : St} {q : List Item} {when key : Nat} : (when, key) ∈ s.evict →
      Step (.evict when key) s q (evictSt s when key) q
  | served {s : St} {q : List Item} (t cid arg key : Nat) {k f : Nat} {o : Outcome} :
      s.retention.find? (·.1 == key) = some (k, f) → futState s f = some o →
      Step (.input (.call t cid arg key)) s q { s with outs := s.outs ++ [Out.done s.now cid o] } q
  | shares {s : St} {q : List Item} (t cid arg key : Nat) {k f : Nat} :
      s.retention.find? (·.1 == key) = some (k, f) → futState s f = none →
      Step (.input (.call t cid arg key)) s q { s with waiting := s.waiting ++ [(cid, f)] } q
  | fresh {s : St} {q : List Item} (t cid arg key : Nat) : s.retention.find? (·.1 == key) = none →
      Step (.input (.call t cid arg key)) s q (freshSt s cid arg key) (q ++ [newItem s arg key])
  /-- `stepIn` does this only for a caller that is suspended, which no invariant needs to know -/
  | cancel {s : St} {q : List Item} (t cid : Nat) :
      Step (.input (.cancel t cid)) s q
        { s with waiting := s.waiting.filter (·.1 != cid), outs := s.outs ++ [Out.done s.now cid .cancelled] } q
  | setMax {s : St} {q : List Item} (t n : Nat) :
      Step (.input (.setMax t n)) s q
        { s with maxb := n, asm := s.asm.map fun a => { a with bound := max a.bound n } } q

/-- Reached by primitive moves whose labels all satisfy `A`. -/
inductive Steps (A : Label → Prop) : St → List Item → St → List Item → Prop where
  | refl {s : St} {q : List Item} : Steps A s q s q
  | head {l : Label} {s s1 s2 : St} {q q1 q2 : List Item} :
      Step l s q s1 q1 → A l → Steps A s1 q1 s2 q2 → Steps A s q s2 q2

variable {A : Label → Prop}

theorem Steps.trans {s s1 s2 : St} {q q1 q2 : List Item} (h1 : Steps A s q s1 q1) (h2 : Steps A s1 q1 s2 q2) :
    Steps A s q s2 q2 := by
  induction h1 with
  | refl => exact h2
  | head st hl _ ih => exact .head st hl (ih h2)

theorem Steps.one {l : Label} {s s1 : St} {q q1 : List Item} (st : Step l s q s1 q1) (hl : A l) : Steps A s q s1 q1 :=
  .head st hl .refl

theorem Steps.mono {B : Label → Prop} (hAB : ∀ l, A l → B l) {s s' : St} {q q' : List Item}
    (h : Steps A s q s' q') : Steps B s q s' q' := by
  induction h with
  | refl => exact .refl
  | head st hl _ ih => exact .head st (hAB _ hl) ih

theorem Steps.induct {P : St → List Item → Prop} {s s' : St} {q q' : List Item} (h : Steps A s q s' q')
    (step : ∀ {l s q s' q'}, Step l s q s' q' → A l → P s q → P s' q') : P s q → P s' q' := by
  induction h with
  | refl => exact id
  | head st hl _ ih => exact fun hp => ih (step st hl hp)

theorem Step.config {l : Label} {s s' : St} {q q' : List Item} (h : Step l s q s' q') :
    s'.maxc = s.maxc ∧ s'.ret = s.ret := by
  cases h with
  | run =>
    exact resolveList_induct (P := fun s' => s'.maxc = s.maxc ∧ s'.ret = s.ret) (fun _ _ _ h => h) _ s ⟨rfl, rfl⟩
  | _ => exact ⟨rfl, rfl⟩

theorem Steps.config {s s' : St} {q q' : List Item} (h : Steps A s q s' q') : s'.maxc = s.maxc ∧ s'.ret = s.ret :=
  h.induct (P := fun s' _ => s'.maxc = s.maxc ∧ s'.ret = s.ret)
    (fun st _ hp => ⟨st.config.1.trans hp.1, st.config.2.trans hp.2⟩) ⟨rfl, rfl⟩

theorem runB_frame (fuel : Nat) (s : St) (b : Batch) :
    (runB fuel s b).semWait = s.semWait ∧ (runB fuel s b).asm = s.asm ∧ (runB fuel s b).queue = s.queue :=
  resolveList_induct (P := fun s' => s'.semWait = s.semWait ∧ s'.asm = s.asm ∧ s'.queue = s.queue)
    (fun _ _ _ h => h) _ s ⟨rfl, rfl, rfl⟩

theorem newBatch_mem (s : St) (items : List Item) (bound : Nat) :
    newBatch s items bound ∈ (enter s items bound).running :=
  List.mem_concat_self

theorem enter_run (tau : A .tau) (fuel : Nat) (s : St) (items : List Item) (bound : Nat) (q : List Item) :
    Steps A (enter s items bound) q (startBatch fuel s items bound) q ∧ (startBatch fuel s items bound).queue = s.queue :=
  startBatch_eq fuel s items bound ▸ ⟨.one (.run fuel (newBatch_mem _ _ _)) tau, (runB_frame _ _ _).2.2⟩

theorem releaseSlots_steps (tau : A .tau) : ∀ (fuel : Nat) (s : St) (q : List Item),
    Steps A s q (releaseSlots fuel s) q ∧ (releaseSlots fuel s).queue = s.queue
  | 0, _, _ => ⟨.refl, rfl⟩
  | fuel + 1, s, q => by
    unfold releaseSlots
    split
    · exact ⟨.refl, rfl⟩
    · rename_i items bound rest hw
      split
      · rename_i hlt
        have hr := enter_run tau (fuel + 1) { s with semWait := rest } items bound q
        have ih := releaseSlots_steps tau fuel (startBatch (fuel + 1) { s with semWait := rest } items bound) q
        exact ⟨.head (.release hw hlt) tau (hr.1.trans ih.1), ih.2.trans hr.2⟩
      · exact ⟨.refl, rfl⟩

theorem dispatch_steps (tau : A .tau) (fuel : Nat) {s : St} {q q' : List Item} {a : Asm} (h : Hand s q a q') :
    Steps A s q (dispatch fuel s a) q' ∧ (dispatch fuel s a).queue = s.queue := by
  unfold dispatch
  simp only []
  split
  · rename_i hg
    have hr := enter_run tau fuel { s with asm := none } a.items a.bound q'
    have ih := releaseSlots_steps tau fuel (startBatch fuel { s with asm := none } a.items a.bound) q'
    have hsw : s.semWait = [] := List.isEmpty_iff.mp hg.2
    -- the batch joins the empty wait queue and `release` takes it off again: `semWait` is `[]`, as `s` has it
    refine ⟨.head (.park h) tau (.head (.release (congrArg (· ++ _) hsw) hg.1) tau ?_), ih.2.trans hr.2⟩
    rw [← hsw]
    exact hr.1.trans ih.1
  · exact ⟨.one (.park h) tau, rfl⟩

theorem assemble_steps (tau : A .tau) (fuel : Nat) : ∀ (items : List Item) (s : St),
    Steps A s items (assemble fuel items s) [] ∧ (assemble fuel items s).queue = s.queue
  | [], _ => ⟨.refl, rfl⟩
  | it :: rest, s => by
    rw [assemble_cons]
    split
    · rename_i hfull
      have hd := dispatch_steps tau fuel (Hand.full (q := rest) hfull)
      have ih := assemble_steps tau fuel rest (dispatch fuel s (ext s it))
      exact ⟨hd.1.trans ih.1, ih.2.trans hd.2⟩
    · rename_i hnot
      have ih := assemble_steps tau fuel rest { s with asm := some (ext s it) }
      exact ⟨.head (.extend (Nat.lt_of_not_le hnot)) tau ih.1, ih.2⟩

/-- `fire` after its clock update (same text as in the model; `fire_eq` checks it by `rfl`). -/
def fireCore (fuel : Nat) (s : St) (when : Nat) (ev : Ev) : St :=
  match ev with
  | .assemble => assemble fuel s.queue { s with queue := [] }
  | .deadline =>
    match s.asm with
    | some a => dispatch fuel s a
    | none => s
  | .pumpB id =>
    match s.running.find? (·.id == id) with
    | none => s
    | some b =>
      match pump fuel s b with
      | (s', some b') => { s' with running := s'.running.map fun x => if x.id == id then b' else x }
      | (s', none) => releaseSlots fuel { s' with running := s'.running.filter (·.id != id) }
  | .evictK key => evictSt s when key

theorem fire_eq (fuel : Nat) (s : St) (when : Nat) (ev : Ev) :
    fire fuel s when ev = fireCore fuel { s with now := max s.now when } when ev := rfl

theorem fireCore_pumpB (fuel : Nat) (s : St) (when id : Nat) (b : Batch)
    (hb : s.running.find? (·.id == id) = some b) :
    fireCore fuel s when (.pumpB id) =
      match (pumpL fuel s.now b).2 with
      | some _ => runB fuel s b
      | none => releaseSlots fuel (runB fuel s b) := by
  have hid : b.id = id := by simpa using List.find?_some hb
  unfold fireCore runB finish
  simp only [hb, pump_eq, hid]
  cases (pumpL fuel s.now b).2 <;> rfl

theorem fireCore_steps (tau : A .tau) (fuel : Nat) (s : St) (when : Nat) (ev : Ev)
    (hev : ∀ key, ev = .evictK key → (when, key) ∈ s.evict ∧ A (.evict when key)) :
    Steps A s s.queue (fireCore fuel s when ev) (fireCore fuel s when ev).queue := by
  cases ev with
  | assemble =>
    have h := assemble_steps tau fuel s.queue { s with queue := [] }
    have hq : (fireCore fuel s when .assemble).queue = [] := h.2
    rw [hq]
    exact .head .take tau h.1
  | deadline =>
    unfold fireCore
    cases hasm : s.asm with
    | none => exact .refl
    | some =>
      have h := dispatch_steps tau fuel (Hand.timeout (q := s.queue) hasm)
      simp only []
      rw [h.2]
      exact h.1
  | pumpB id =>
    cases hb : s.running.find? (·.id == id) with
    | none => unfold fireCore; simp only [hb]; exact .refl
    | some b =>
      rw [fireCore_pumpB fuel s when id b hb]
      have hrun : Steps A s s.queue (runB fuel s b) s.queue := .one (.run fuel (List.mem_of_find?_eq_some hb)) tau
      split
      · rw [(runB_frame _ _ _).2.2]; exact hrun
      · have h := releaseSlots_steps tau fuel (runB fuel s b) s.queue
        rw [h.2, (runB_frame _ _ _).2.2]
        exact hrun.trans h.1
  | evictK key => exact .one (.evict (hev key rfl).1) (hev key rfl).2

theorem fire_steps (tau : A .tau) (fuel : Nat) (s : St) (when : Nat) (ev : Ev)
    (hev : ∀ key, ev = .evictK key → (when, key) ∈ s.evict ∧ A (.evict when key)) :
    Steps A s s.queue (fire fuel s when ev) (fire fuel s when ev).queue :=
  .head (.tick (max s.now when) s.tie (Nat.le_max_left _ _)) tau (fireCore_steps tau fuel _ when ev hev)

theorem evLt_le {a b : Nat × Nat × Nat × Ev} : (evLt a b = true → a.1 ≤ b.1) ∧ (¬ evLt a b = true → b.1 ≤ a.1) := by
  unfold evLt
  constructor <;> intro h <;> simp at h <;> omega

theorem minEv_spec : ∀ (l : List (Nat × Nat × Nat × Ev)),
    match minEv l with
    | none => l = []
    | some m => m ∈ l ∧ ∀ c ∈ l, m.1 ≤ c.1
  | [] => rfl
  | x :: r => by
    have ih := minEv_spec r
    unfold minEv
    cases hm : minEv r with
    | none =>
      rw [hm] at ih
      subst ih
      exact ⟨List.mem_cons_self, fun c hc => by cases List.mem_singleton.mp hc; exact Nat.le_refl _⟩
    | some m =>
      simp only [hm] at ih
      by_cases hlt : evLt m x = true
      · simp only [hlt, if_true]
        refine ⟨List.mem_cons_of_mem _ ih.1, fun c hc => ?_⟩
        rcases List.mem_cons.mp hc with rfl | hc
        · exact evLt_le.1 hlt
        · exact ih.2 c hc
      · simp only [hlt]
        refine ⟨List.mem_cons_self, fun c hc => ?_⟩
        rcases List.mem_cons.mp hc with rfl | hc
        · exact Nat.le_refl _
        · exact Nat.le_trans (evLt_le.2 hlt) (ih.2 c hc)

theorem minEv_mem : ∀ (l : List (Nat × Nat × Nat × Ev)) (c : Nat × Nat × Nat × Ev), minEv l = some c → c ∈ l := by
  intro l c h
  have := minEv_spec l
  rw [h] at this
  exact this.1

theorem candidates_evict (s : St) (when p1 p2 key : Nat) (h : (when, p1, p2, Ev.evictK key) ∈ candidates s) :
    (when, key) ∈ s.evict := by
  unfold candidates at h
  simp only [List.mem_append, List.mem_map] at h
  rcases h with ((h | h) | h) | h
  · split at h <;> simp at h
  · obtain ⟨b, _, hb⟩ := h; simp at hb
  · split at h <;> simp at h
  · obtain ⟨e, he, heq⟩ := h
    cases heq
    exact he

/-- the labels of `advance … t strict`: internal moves, and the timers that are due -/
def Due (t : Nat) (strict : Bool) : Label → Prop
  | .tau => True
  | .evict when _ => when < t ∨ (¬ strict ∧ when = t)
  | .input _ => False

theorem advance_steps (t : Nat) (strict : Bool) : ∀ (fuel : Nat) (s : St),
    Steps (Due t strict) s s.queue (advance fuel t strict s) (advance fuel t strict s).queue
  | 0, _ => .refl
  | fuel + 1, s => by
    unfold advance
    split
    · exact .refl
    · rename_i when p1 p2 ev hmin
      split
      · rename_i hdue
        refine (fire_steps trivial (fuel + 1) s when ev ?_).trans (advance_steps t strict fuel _)
        intro key hk
        subst hk
        exact ⟨candidates_evict s when p1 p2 key (minEv_mem _ _ hmin), hdue⟩
      · exact .refl

theorem arrive_steps (s : St) (t : Nat) : Steps (Due t true) s s.queue (arrive s t) (arrive s t).queue :=
  (advance_steps t true fuelDefault s).trans (.one (.tick _ _ (Nat.le_max_left _ _)) trivial)

/-- the inputs of a stretch of a run are among `ins` -/
def Of (ins : List In) : Label → Prop
  | .input i => i ∈ ins
  | _ => True

theorem Of.mono {a b : List In} (h : ∀ i ∈ a, i ∈ b) : ∀ l, Of a l → Of b l
  | .tau, _ | .evict _ _, _ => trivial
  | .input i, hi => h i hi

theorem Due.of {t : Nat} {strict : Bool} {ins : List In} : ∀ l, Due t strict l → Of ins l
  | .tau, _ | .evict _ _, _ => trivial
  | .input _, h => h.elim

theorem stepIn_steps (s : St) (i : In) : Steps (Of [i]) s s.queue (stepIn s i) (stepIn s i).queue := by
  have hi : Of [i] (.input i) := List.mem_singleton.mpr rfl
  cases i with
  | call t cid arg key =>
    cases hf : s.retention.find? (·.1 == key) with
    | none => simp only [stepIn, hf]; exact .one (.fresh t cid arg key hf) hi
    | some kf =>
      obtain ⟨k, f⟩ := kf
      cases hs : futState s f with
      | none => simp only [stepIn, hf, hs]; exact .one (.shares t cid arg key hf hs) hi
      | some => simp only [stepIn, hf, hs]; exact .one (.served t cid arg key hf hs) hi
  | cancel t cid =>
    cases hf : s.waiting.find? (·.1 == cid) with
    | none => simp only [stepIn, hf]; exact .refl
    | some => simp only [stepIn, hf]; exact .one (.cancel t cid) hi
  | setMax t n => exact .one (.setMax t n) hi

theorem applyIn_steps (s : St) (i : In) : Steps (Of [i]) s s.queue (applyIn s i) (applyIn s i).queue := by
  rw [applyIn_eq]
  exact ((arrive_steps s i.time).mono Due.of).trans (stepIn_steps _ i)

theorem foldl_steps : ∀ (ins : List In) (s : St),
    Steps (Of ins) s s.queue (ins.foldl applyIn s) (ins.foldl applyIn s).queue
  | [], _ => .refl
  | i :: r, s =>
    ((applyIn_steps s i).mono (Of.mono fun _ h => List.mem_cons.mpr (.inl (List.mem_singleton.mp h)))).trans
      ((foldl_steps r (applyIn s i)).mono (Of.mono fun _ h => List.mem_cons_of_mem _ h))

theorem runProgram_steps (s : St) (ins : List In) :
    Steps (Of ins) s s.queue (runProgram s ins) (runProgram s ins).queue :=
  (foldl_steps ins s).trans ((advance_steps horizon false fuelDefault _).mono Due.of)

end AiutiVerif.Batcher
