import AiutiVerif.Batcher.Window

/-!
# The machine is on time   (C10 timing clauses, C11 window: what `advanceDone` buys)

Whenever `advance … t strict` stops because nothing is due (`advanceDone`), nothing *is* due: no queued
item waits to be looked at, no open assembly is past its deadline, no running batch is behind its
script, no eviction timer is overdue.  The timing clauses of C10 and the window clause of C11 need this
(together with how `assemble` and `resolve` set the deadlines, which the differential check compares).
-/
namespace AiutiVerif.Batcher

structure OnTime (s : St) (t : Nat) : Prop where
  queue : s.queue ≠ [] → t ≤ s.qtime
  asm : ∀ a, s.asm = some a → t ≤ a.deadline
  running : ∀ b ∈ s.running, t ≤ b.next
  timers : ∀ e ∈ s.evict, t ≤ e.1

theorem onTime_of_quiet {s : St} {t : Nat} (h : Quiet s t true) : OnTime s t := by
  refine ⟨?_, ?_, ?_, quiet_timers h⟩
  · intro hq
    apply h.le (s.qtime, 0, 0, Ev.assemble)
    simp [candidates, hq]
  · intro a ha
    apply h.le (a.deadline, 2, 0, Ev.deadline)
    simp [candidates, ha]
  · intro b hb
    apply h.le (b.next, 1, b.id, Ev.pumpB b.id)
    simp only [candidates, List.mem_append, List.mem_map]
    exact .inl (.inl (.inr ⟨b, hb, rfl⟩))

theorem arrive_onTime (s : St) (t : Nat) (hd : advanceDone fuelDefault t true s = true) : OnTime (arrive s t) t :=
  -- `arrive` only moves the clock on, which `OnTime` does not read
  { onTime_of_quiet (advance_quiet fuelDefault t true s hd) with }

end AiutiVerif.Batcher
