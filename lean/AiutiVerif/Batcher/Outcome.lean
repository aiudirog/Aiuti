import AiutiVerif.Batcher.Model
/-!
# What one batch gives each caller (C04): untimed reading of `_process_batch`

`runScript` folds `actStep` (the very function `pump` applies to every action) over a whole
script; `specOutcome` is the property's wording, written independently.
-/
namespace AiutiVerif.Batcher

/-- All resolutions a script causes on a `futs` dict, in order. -/
def runScript : List (Nat × Nat) → List Act → List (Nat × Outcome)
  | _, [] => []
  | futs, act :: rest =>
    match actStep futs act with
    | (res, futs', true) => res ++ runScript futs' rest
    | (res, _, false) => res

/-- The property's reading: the first yield for the key decides, unless the batch function
first raises, or first yields a key twice or an unknown key (both surface as `KeyError` to
everybody still unanswered); a key never yielded is an error (`ValueError`), not a hang.
`none` = the script is not finished. `seen` = keys already yielded. -/
def specOutcome (keys : List Nat) : List Act → List Nat → Nat → Option Outcome
  | [], _, _ => none
  | .yield k r :: rest, seen, key =>
    if k ∈ seen ∨ k ∉ keys then some (.exc codeKeyError)
    else if k = key then some (toOutcome r)
    else specOutcome keys rest (k :: seen) key
  | .raise c :: _, _, _ => some (.exc c)
  | .fin :: _, _, _ => some (.exc codeMissing)

theorem find?_key_none (futs : List (Nat × Nat)) (k : Nat) :
    futs.find? (·.1 == k) = none ↔ k ∉ futs.map (·.1) := by
  simp only [List.find?_eq_none, List.mem_map, beq_iff_eq, not_exists, not_and]

theorem find?_key_some (futs : List (Nat × Nat)) (k k' f : Nat)
    (h : futs.find? (·.1 == k) = some (k', f)) : k' = k ∧ (k, f) ∈ futs := by
  have h1 : k' = k := by simpa using List.find?_some h
  exact ⟨h1, h1 ▸ List.mem_of_find?_eq_some h⟩

theorem mem_eraseKey (futs : List (Nat × Nat)) (k : Nat) (p : Nat × Nat) :
    p ∈ eraseKey futs k ↔ p ∈ futs ∧ p.1 ≠ k := by
  simp [eraseKey]

theorem eraseKey_subset {l : List (Nat × Nat)} {k : Nat} {p : Nat × Nat} (h : p ∈ eraseKey l k) : p ∈ l :=
  ((mem_eraseKey l k p).mp h).1

theorem mem_eraseKey_keys (futs : List (Nat × Nat)) (k k' : Nat) :
    k ∈ (eraseKey futs k').map (·.1) ↔ k ∈ futs.map (·.1) ∧ k ≠ k' := by
  simp [eraseKey]

theorem filter_map_single (futs : List (Nat × Nat)) (f : Nat) (o : Outcome)
    (hnd : (futs.map (·.2)).Nodup) (hin : f ∈ futs.map (·.2)) :
    (futs.map fun kf => (kf.2, o)).filter (fun p => p.1 == f) = [(f, o)] := by
  have : (futs.map fun kf => (kf.2, o)) = (futs.map (·.2)).map (fun x => (x, o)) := by rw [List.map_map]; rfl
  rw [this, List.filter_map]
  show ((futs.map (·.2)).filter (· == f)).map _ = _
  rw [List.filter_beq, hnd.count, if_pos hin]
  rfl

theorem nodup_map_inj {α β : Type} (g : α → β) :
    ∀ {l : List α}, (l.map g).Nodup → ∀ {a b}, a ∈ l → b ∈ l → g a = g b → a = b := by
  intro l
  induction l with
  | nil => simp
  | cons p r ih => grind

theorem actStep_cases (futs : List (Nat × Nat)) (act : Act) :
    (∃ k r f, act = .yield k r ∧ (k, f) ∈ futs ∧ actStep futs act = ([(f, toOutcome r)], eraseKey futs k, true)) ∨
    ∃ o, actStep futs act = (futs.map fun kf => (kf.2, o), [], false) := by
  cases act with
  | raise c | fin => exact .inr ⟨_, rfl⟩
  | yield k r =>
    cases hfind : futs.find? (·.1 == k) with
    | none => exact .inr ⟨.exc codeKeyError, by simp only [actStep, hfind]⟩
    | some kf =>
      obtain ⟨rfl, hmem⟩ := find?_key_some _ _ kf.1 kf.2 hfind
      exact .inl ⟨_, r, kf.2, rfl, hmem, by simp only [actStep, hfind]⟩

theorem actStep_ids {futs futs' : List (Nat × Nat)} {act : Act} {res : List (Nat × Outcome)} {cont : Bool}
    (h : actStep futs act = (res, futs', cont)) : (∀ p ∈ res, p.1 ∈ futs.map (·.2)) ∧ futs'.Sublist futs := by
  rcases actStep_cases futs act with ⟨k, r, f, -, hmem, e⟩ | ⟨o, e⟩ <;> cases h.symm.trans e
  · exact ⟨fun p hp => by cases List.mem_singleton.mp hp; exact List.mem_map_of_mem hmem, List.filter_sublist⟩
  · exact ⟨fun p hp => by obtain ⟨x, hx, rfl⟩ := List.mem_map.mp hp; exact List.mem_map_of_mem hx, List.nil_sublist _⟩

theorem runScript_ids : ∀ (script : List Act) (futs : List (Nat × Nat)) (p : Nat × Outcome),
    p ∈ runScript futs script → p.1 ∈ futs.map (·.2)
  | act :: rest, futs, p, h => by
    unfold runScript at h
    rcases hstep : actStep futs act with ⟨res, futs', cont⟩
    obtain ⟨h1, h2⟩ := actStep_ids hstep
    rw [hstep] at h
    cases cont with
    | false => exact h1 p h
    | true => exact (List.mem_append.mp h).elim (h1 p) fun h => (h2.map _).subset (runScript_ids rest futs' p h)

/-- Generalised statement: `futs` is the dict after the keys in `seen` were answered. -/
theorem runScript_spec (keys : List Nat) (script : List Act) :
    ∀ (futs : List (Nat × Nat)) (seen : List Nat) (key f : Nat),
      (futs.map (·.1)).Nodup → (futs.map (·.2)).Nodup →
      (∀ k, k ∈ futs.map (·.1) ↔ (k ∈ keys ∧ k ∉ seen)) →
      (key, f) ∈ futs →
      (runScript futs script).filter (fun p => p.1 == f) =
        (match specOutcome keys script seen key with
          | some o => [(f, o)]
          | none => []) := by
  induction script with
  | nil => intro futs seen key f _ _ _ _; simp [runScript, specOutcome]
  | cons act rest ih =>
    intro futs seen key f hk hf hkeys hmem
    have hfin : f ∈ futs.map (·.2) := List.mem_map_of_mem hmem
    unfold runScript specOutcome
    cases act with
    | raise c | fin => simp only [actStep]; exact filter_map_single futs f _ hf hfin
    | yield k r =>
      have hcond : (k ∈ seen ∨ k ∉ keys) ↔ k ∉ futs.map (·.1) := by
        rw [hkeys k, Decidable.not_and_iff_not_or_not, Decidable.not_not, or_comm]
      simp only [actStep, hcond]
      cases hfind : futs.find? (·.1 == k) with
      | none =>
        simp only [(find?_key_none futs k).mp hfind, not_false_eq_true, if_true]
        exact filter_map_single futs f _ hf hfin
      | some kf =>
        obtain ⟨k', f'⟩ := kf
        obtain ⟨rfl, hmem'⟩ := find?_key_some _ _ _ _ hfind
        have hkin : k' ∈ futs.map (·.1) := List.mem_map_of_mem hmem'
        simp only [hkin, not_true, if_false]
        -- keys and ids are both duplicate-free: (key, f) and (k', f') coincide iff k' = key
        by_cases hkk : k' = key
        · subst hkk
          cases nodup_map_inj (·.1) hk hmem' hmem rfl
          have hrest : (runScript (eraseKey futs k') rest).filter (fun p => p.1 == f) = [] :=
            List.filter_eq_nil_iff.mpr fun p hp he => by
              obtain ⟨x, hx, hx2⟩ := List.mem_map.mp (runScript_ids rest _ p hp)
              obtain ⟨hxin, hxk⟩ := (mem_eraseKey _ _ _).mp hx
              exact hxk (congrArg Prod.fst (nodup_map_inj (·.2) hf hxin hmem (hx2.trans (by simpa using he))))
          simp [hrest]
        · have hne : f' ≠ f := fun he => hkk (congrArg Prod.fst (nodup_map_inj (·.2) hf hmem' hmem he))
          simp only [hkk, if_false, List.filter_append]
          have hhead : [(f', toOutcome r)].filter (fun p => p.1 == f) = [] := by simp [hne]
          rw [hhead, List.nil_append]
          apply ih (eraseKey futs k') (k' :: seen) key f
          · exact (List.filter_sublist.map _).nodup hk
          · exact (List.filter_sublist.map _).nodup hf
          · intro k
            rw [mem_eraseKey_keys, hkeys k, List.mem_cons, not_or, and_right_comm, and_assoc]
          · exact (mem_eraseKey _ _ _).mpr ⟨hmem, fun h => hkk h.symm⟩

end AiutiVerif.Batcher
