import AiutiVerif.Batcher.Cancel
import AiutiVerif.Batcher.Stable
import AiutiVerif.Batcher.OnTime
/-!
# Batcher property theorems (C04, C09, C10, C11)

Stated about `Batcher/Model.lean`: per batch (C04), and for every program of inputs from a fresh batcher.
-/
namespace AiutiVerif.Batcher

/-- a batch function that answers every key with a value, taking 5 ticks per item -/
def demoPlanK : Plan := { per := [], order := 0, raiseAt := [], idelay := 5, tail := 0 }

/-- For every batch dict (keys and futures duplicate-free), every script, every result order: the future of `key` is
resolved exactly once, with `specOutcome` - the first yield for that key unless a raise / repeated key / unknown
key comes first, `ValueError` if it is never yielded - and not at all only if the script is unfinished. -/
theorem C04_outcome (futs : List (Nat × Nat)) (script : List Act) (key f : Nat)
    (hk : (futs.map (·.1)).Nodup) (hf : (futs.map (·.2)).Nodup) (hmem : (key, f) ∈ futs) :
    (runScript futs script).filter (fun p => p.1 == f) =
      (match specOutcome (futs.map (·.1)) script [] key with
        | some o => [(f, o)]
        | none => []) :=
  runScript_spec (futs.map (·.1)) script futs [] key f hk hf (by intro k; simp) hmem

/-- No caller ever receives a value yielded for a different key: whatever `specOutcome` gives
the key is the result of a yield *for that key*, or one of the error paths. -/
theorem C04_no_cross_key (keys : List Nat) (script : List Act) :
    ∀ (seen : List Nat) (key : Nat) (o : Outcome), specOutcome keys script seen key = some o →
      (∃ r, Act.yield key r ∈ script ∧ o = toOutcome r) ∨ (∃ c, Act.raise c ∈ script ∧ o = .exc c) ∨
      o = .exc codeKeyError ∨ o = .exc codeMissing := by
  induction script with
  | nil => nofun
  | cons act rest ih =>
    intro seen key o h
    cases act with
    | raise c => cases h; exact .inr (.inl ⟨c, List.mem_cons_self, rfl⟩)
    | fin => cases h; exact .inr (.inr (.inr rfl))
    | yield k r =>
      simp only [specOutcome] at h
      split at h
      · cases h; exact .inr (.inr (.inl rfl))
      · split at h
        · rename_i hk
          cases h
          exact .inl ⟨r, hk ▸ List.mem_cons_self, rfl⟩
        · exact (ih _ _ _ h).imp (fun ⟨r', hr, ho⟩ => ⟨r', List.mem_cons_of_mem _ hr, ho⟩)
            (Or.imp_left fun ⟨c, hc, ho⟩ => ⟨c, List.mem_cons_of_mem _ hc, ho⟩)

/-- A key the batch function never yields results in an error rather than a hang: a script that
ends (with `fin` or by raising) answers every key. -/
theorem C04_always_answers (keys : List Nat) (script : List Act)
    (hend : ∃ a ∈ script, a = Act.fin ∨ ∃ c, a = Act.raise c) :
    ∀ (seen : List Nat) (key : Nat), (specOutcome keys script seen key).isSome := by
  induction script with
  | nil => obtain ⟨a, ha, _⟩ := hend; cases ha
  | cons act rest ih =>
    intro seen key
    cases act with
    | raise c | fin => rfl
    | yield k =>
      simp only [specOutcome]
      split
      · rfl
      · split
        · rfl
        · obtain ⟨a, ha, hh⟩ := hend
          rcases List.mem_cons.mp ha with rfl | ha'
          · rcases hh with hh | ⟨c, hh⟩ <;> cases hh
          · exact ih ⟨a, ha', hh⟩ _ _

/-- The harness-owned batch function always ends (so `C04_always_answers` applies to every batch of every
generated program). -/
theorem behaviourGo_ends (p : Plan) (b ra : Nat) :
    ∀ (items : List (Nat × Nat)) (j : Nat) (seen : List (Nat × Nat)),
      ∃ a ∈ ((behaviourGo p b ra items j seen).1.map (·.2)), a = Act.fin ∨ ∃ c, a = Act.raise c :=
  fun items j seen => endsT_term (behaviourGo_endsT p b ra items j seen)

/-- The timed machine performs the untimed reading: what `pump` does to the futures is a prefix of `runScript` (the
function `C04_outcome` is about), and what it leaves to do is `runScript` of the remaining batch. -/
theorem C04_pump_is_runScript (fuel : Nat) (s : St) (b : Batch) :
    ∃ L, (pump fuel s b).1 = resolveList s L ∧
      L ++ (match (pump fuel s b).2 with
            | some b' => runScript b'.futs (acts b'.script)
            | none => []) = runScript b.futs (acts b.script) := by
  rw [pump_eq]
  exact ⟨_, rfl, pumpL_runScript fuel s.now b⟩

/-- key 2 is yielded twice: the second yield is a `KeyError` for key 1, the only one still unanswered -/
example : specOutcome [0, 1, 2] [.yield 2 (.val 2 7 0), .yield 0 (.err 2000), .yield 2 (.val 999 0 0), .fin] [] 0
    = some (.exc 2000) := by decide
example : specOutcome [0, 1, 2] [.yield 2 (.val 2 7 0), .yield 0 (.err 2000), .yield 2 (.val 999 0 0), .fin] [] 1
    = some (.exc codeKeyError) := by decide
example : runScript [(0, 10), (1, 11), (2, 12)]
    [.yield 2 (.val 2 7 0), .yield 0 (.err 2000), .yield 2 (.val 999 0 0), .fin] =
    [(12, .ok 2 7 0), (10, .exc 2000), (11, .exc codeKeyError)] := by decide

theorem Wq.inFlight {s : St} (hw : Wq s) :
    (∀ w ∈ s.waiting, futState s w.2 = none ∧
      ((∃ it ∈ flatI s.semWait ++ (asmI s ++ s.queue), it.fut = w.2) ∨ (∃ b ∈ s.running, ∃ e ∈ b.futs, e.2 = w.2))) ∧
    (∀ b ∈ s.running, endsT b.script = true) :=
  ⟨fun w hwm => ⟨(hw.1.waitOk w hwm).1, hw.1.inFlight w.2 (hw.1.waitOk w hwm).2 (hw.1.waitOk w hwm).1⟩, hw.2.1⟩

/-- **C04, "always answers", safety half.**  After every prefix of any program from a fresh batcher a caller is
suspended only on an unresolved future, and that future is in flight: its item is queued, being assembled or waiting
for a slot, or its key is still in the dict of a running batch whose script ends with `fin` / `raise`, at which
point `_process_batch` resolves everything left in that dict (`C04_always_answers`, `C04_pump_is_runScript`). -/
theorem C04_waiters_are_in_flight_prefix (s0 : St) (hf : Fresh3 s0) (ins : List In) :
    let s := ins.foldl applyIn s0
    (∀ w ∈ s.waiting, futState s w.2 = none ∧
      ((∃ it ∈ flatI s.semWait ++ (asmI s ++ s.queue), it.fut = w.2) ∨ (∃ b ∈ s.running, ∃ e ∈ b.futs, e.2 = w.2))) ∧
    (∀ b ∈ s.running, endsT b.script = true) :=
  (foldl_applyIn_Wq ins s0 (Rq_fresh s0 hf.1) (Wq_fresh s0 hf)).inFlight

/-- The same after the drain. -/
theorem C04_waiters_are_in_flight (s0 : St) (hf : Fresh3 s0) (ins : List In) :
    let s := runProgram s0 ins
    (∀ w ∈ s.waiting, futState s w.2 = none ∧
      ((∃ it ∈ flatI s.semWait ++ (asmI s ++ s.queue), it.fut = w.2) ∨ (∃ b ∈ s.running, ∃ e ∈ b.futs, e.2 = w.2))) ∧
    (∀ b ∈ s.running, endsT b.script = true) :=
  (runProgram_Wq s0 ins (Rq_fresh s0 hf.1) (Wq_fresh s0 hf)).inFlight

/-- Whoever called is suspended or has been answered — nobody is dropped. -/
theorem C04_every_call_is_served (s0 : St) (ins : List In) (t c arg key : Nat) (h : In.call t c arg key ∈ ins) :
    Served (ins.foldl applyIn s0) c ∧ Served (runProgram s0 ins) c := by
  have h1 := foldl_call_Served ins s0 t c arg key h
  refine ⟨h1, ?_⟩
  unfold runProgram
  exact advance_Mono _ _ _ _ c h1

/-- **C04, "always answers", run level.**  Once queue, assembly, semaphore queue and running batches are all empty,
every caller id that called in the program has a `done` event: a value, an exception or its own cancellation.  (That the pipeline
does drain is the liveness half: differential + monitor `pending-forever`.) -/
theorem C04_all_answered_at_rest (s0 : St) (hf : Fresh3 s0) (ins : List In)
    (hq : (runProgram s0 ins).queue = []) (ha : (runProgram s0 ins).asm = none)
    (hs : (runProgram s0 ins).semWait = []) (hr : (runProgram s0 ins).running = []) :
    (runProgram s0 ins).waiting = [] ∧
    ∀ t c arg key, In.call t c arg key ∈ ins → ∃ t' o, Out.done t' c o ∈ (runProgram s0 ins).outs := by
  have hempty : (runProgram s0 ins).waiting = [] := List.eq_nil_iff_forall_not_mem.mpr fun w hw => by
    rcases ((C04_waiters_are_in_flight s0 hf ins).1 w hw).2 with ⟨it, hit, _⟩ | ⟨b, hb, _⟩
    · simp [flatI, asmI, hq, ha, hs] at hit
    · rw [hr] at hb; cases hb
  refine ⟨hempty, fun t c arg key hc => (C04_every_call_is_served s0 ins t c arg key hc).2.resolve_right ?_⟩
  rw [hempty]
  nofun

/-- A `cancel` input touches only the cancelled caller: compared with the same instant without it (`arrive`), that
caller leaves `waiting` and gets its `cancelled` event; queue, assembly, batches, futures, retention and timers are the same. -/
theorem C09_cancel_touches_only_the_caller (s : St) (t cid : Nat) :
    let s0 := arrive s t
    let s1 := applyIn s (.cancel t cid)
    s1.waiting = s0.waiting.filter (·.1 != cid) ∧
    (s1.outs = s0.outs ∨ s1.outs = s0.outs ++ [Out.done s0.now cid .cancelled]) ∧
    s1.queue = s0.queue ∧ s1.asm = s0.asm ∧ s1.semWait = s0.semWait ∧ s1.running = s0.running ∧
    s1.futs = s0.futs ∧ s1.retention = s0.retention ∧ s1.evict = s0.evict ∧ s1.now = s0.now ∧
    s1.arrivals = s0.arrivals ∧ s1.started = s0.started ∧ s1.nb = s0.nb ∧ s1.seen = s0.seen := by
  simp only [applyIn, In.time]
  cases h : (arrive s t).waiting.find? (·.1 == cid) with
  | none =>
    refine ⟨?_, Or.inl rfl, rfl, rfl, rfl, rfl, rfl, rfl, rfl, rfl, rfl, rfl, rfl, rfl⟩
    exact (List.filter_eq_self.mpr fun w hw => by simpa using List.find?_eq_none.mp h w hw).symm
  | some w =>
    exact ⟨rfl, Or.inr rfl, rfl, rfl, rfl, rfl, rfl, rfl, rfl, rfl, rfl, rfl, rfl, rfl⟩

/-- the `done` events of one caller, in order: (instant, outcome) -/
def doneOf (c : Nat) : List Out → List (Nat × Outcome)
  | [] => []
  | .done t c' o :: r => if c' = c then (t, o) :: doneOf c r else doneOf c r
  | .batch _ _ _ :: r => doneOf c r

/-- the batches the function was invoked with, in order: (instant, batch index, keys) -/
def batchesOf : List Out → List (Nat × Nat × List Nat)
  | [] => []
  | .batch t i ks :: r => (t, i, ks) :: batchesOf r
  | .done _ _ _ :: r => batchesOf r

theorem doneOf_filter (X : Nat → Bool) (c : Nat) (hc : X c = false) :
    ∀ l : List Out, doneOf c (l.filter (keepOut X)) = doneOf c l
  | [] => rfl
  | .batch _ _ _ :: r => doneOf_filter X c hc r
  | .done t c' o :: r => by
    have ih := doneOf_filter X c hc r
    by_cases hcc : c' = c
    · simp [keepOut, doneOf, hcc, hc, ih]
    · cases hx : X c' <;> simp [keepOut, doneOf, hcc, hx, ih]

theorem batchesOf_filter (X : Nat → Bool) :
    ∀ l : List Out, batchesOf (l.filter (keepOut X)) = batchesOf l
  | [] => rfl
  | .batch t i ks :: r => congrArg ((t, i, ks) :: ·) (batchesOf_filter X r)
  | .done t c' o :: r => by
    have ih := batchesOf_filter X r
    cases hx : X c' <;> simp [keepOut, batchesOf, hx, ih]

theorem agree_of_strip {X : Nat → Bool} {s1 s2 : St} (h : strip X s1 = strip X s2) :
    batchesOf s1.outs = batchesOf s2.outs ∧ (∀ c, X c = false → doneOf c s1.outs = doneOf c s2.outs) ∧
    s1.futs = s2.futs ∧ s1.retention = s2.retention ∧ s1.running = s2.running ∧ s1.queue = s2.queue ∧
    s1.waiting.filter (fun w => !X w.1) = s2.waiting.filter (fun w => !X w.1) := by
  have ho : s1.outs.filter (keepOut X) = s2.outs.filter (keepOut X) := congrArg St.outs h
  refine ⟨?_, fun c hc => ?_, (congrArg St.futs h :), (congrArg St.retention h :), (congrArg St.running h :),
    (congrArg St.queue h :), congrArg St.waiting h⟩
  · rw [← batchesOf_filter X s1.outs, ← batchesOf_filter X s2.outs, ho]
  · rw [← doneOf_filter X c hc s1.outs, ← doneOf_filter X c hc s2.outs, ho]

/-- **C09, for every program of inputs.**  Take any set `X` of callers and two programs that differ only in which
caller of `X` is cancelled at the cancellation positions (an id that never called makes the cancellation a no-op:
"cancelled at that moment" against "never cancelled").  From any starting state, through the run and the drain,
the batch function is invoked with the same batches at the same instants, and every caller outside `X` - in the
same batch, sharing the cancelled caller's key, or later - is answered at the same instants with the same outcomes;
futures, retention table, running batches, queue and the other suspended callers are identical too. -/
theorem C09_cancellations_invisible (X : Nat → Bool) (s0 : St) (a b : List In) (h : CancelVariant X a b) :
    batchesOf (runProgram s0 a).outs = batchesOf (runProgram s0 b).outs ∧
    (∀ c, X c = false → doneOf c (runProgram s0 a).outs = doneOf c (runProgram s0 b).outs) ∧
    (runProgram s0 a).futs = (runProgram s0 b).futs ∧
    (runProgram s0 a).retention = (runProgram s0 b).retention ∧
    (runProgram s0 a).running = (runProgram s0 b).running ∧
    (runProgram s0 a).queue = (runProgram s0 b).queue ∧
    (runProgram s0 a).waiting.filter (fun w => !X w.1) = (runProgram s0 b).waiting.filter (fun w => !X w.1) :=
  agree_of_strip (strip_runProgram X h s0)

/-- The batches and the answers are the same at every instant of the run, not only at its end. -/
theorem C09_cancellations_invisible_prefix (X : Nat → Bool) (s0 : St) (a b : List In) (h : CancelVariant X a b) :
    batchesOf (a.foldl applyIn s0).outs = batchesOf (b.foldl applyIn s0).outs ∧
    (∀ c, X c = false → doneOf c (a.foldl applyIn s0).outs = doneOf c (b.foldl applyIn s0).outs) :=
  have h := agree_of_strip (strip_foldl X h s0 s0 rfl)
  ⟨h.1, h.2.1⟩

/-- non-vacuity: callers 0 and 1 share key 7, caller 2 has key 8, all in one batch that is handed over at
t = 12 (10 after the last arrival) and takes 5 per item; caller 0 — the one that created the shared future — is
cancelled at t = 12, in the very instant the batch starts, against "cancel of the never-calling id 99".  Callers 1
and 2 get their values at 17 and 22. -/
def cancelSt : St := { maxb := 3, maxc := 1, bt := 10, ret := 0, plan := demoPlanK }
def cancelInsA : List In := [.call 0 0 0 7, .call 1 1 0 7, .call 2 2 5 8, .cancel 12 0, .call 40 3 0 7]
def cancelInsB : List In := [.call 0 0 0 7, .call 1 1 0 7, .call 2 2 5 8, .cancel 12 99, .call 40 3 0 7]
example : CancelVariant (fun c => c == 0 || c == 99) cancelInsA cancelInsB :=
  .same _ (.same _ (.same _ (.cancels 12 0 99 rfl rfl (.same _ .nil))))
example : doneOf 0 (runProgram cancelSt cancelInsA).outs = [(12, .cancelled)] := by decide +kernel
example : (doneOf 1 (runProgram cancelSt cancelInsA).outs).length = 1 ∧
    (doneOf 2 (runProgram cancelSt cancelInsA).outs).length = 1 ∧
    (doneOf 3 (runProgram cancelSt cancelInsA).outs).length = 1 ∧
    (batchesOf (runProgram cancelSt cancelInsA).outs).length = 2 := by decide +kernel

/-- non-vacuity of the at-rest theorem: the cancel demo drains completely, and mid-run somebody does wait -/
example : Fresh3 cancelSt := by simp [Fresh3, Fresh2, Fresh, cancelSt]
example : (runProgram cancelSt cancelInsA).queue = [] ∧ (runProgram cancelSt cancelInsA).asm = none ∧
    (runProgram cancelSt cancelInsA).semWait = [] ∧ (runProgram cancelSt cancelInsA).running = [] := by decide +kernel
example : ((cancelInsA.take 3).foldl applyIn cancelSt).waiting.length = 3 := by decide +kernel

/-- **Batch sizes**, for every fresh batcher and every program of timed inputs (calls, cancellations,
`max_batch_size` mutations).  Every batch announced to the batch function (the `batch` records the correspondence
check compares with the real batcher) is non-empty and no larger than the largest `max_batch_size` in force while it
was assembled, hence than `M` when the constructor value and all mutations are within `M`.  (`max 1`: the real
`_get_next_batch` always takes the first item, so `max_batch_size = 0` behaves as 1.) -/
theorem C10_batch_sizes (M : Nat) (s0 : St) (hf : Fresh s0) (hM : s0.maxb ≤ M) (ins : List In)
    (hw : setsWithin M ins) :
    let s := runProgram s0 ins
    outSizes s.outs = s.batchLog.map (·.1) ∧
    ∀ p ∈ s.batchLog, 1 ≤ p.1 ∧ p.1 ≤ max 1 p.2 ∧ p.2 ≤ M :=
  have h := runProgram_J s0 ins (Jq_fresh s0 hf hM) hw
  ⟨h.logOuts, h.logOk⟩

theorem J.sizes {M : Nat} {s : St} {q : List Item} (h : J M s q) : ∀ n ∈ outSizes s.outs, 1 ≤ n ∧ n ≤ max 1 M := by
  intro n hn
  rw [h.logOuts, List.mem_map] at hn
  obtain ⟨p, hp, rfl⟩ := hn
  have := h.logOk p hp
  simp only [okSize] at this
  omega

theorem J.started_prefix {M : Nat} {s : St} {q : List Item} (h : J M s q) : s.started <+: s.arrivals :=
  ⟨flatW s.semWait ++ (asmFuts s ++ q.map Item.fut), by rw [← h.fifo]; simp only [List.append_assoc]⟩

theorem C10_batch_sizes_out (M : Nat) (s0 : St) (hf : Fresh s0) (hM : s0.maxb ≤ M) (ins : List In)
    (hw : setsWithin M ins) : ∀ n ∈ outSizes (runProgram s0 ins).outs, 1 ≤ n ∧ n ≤ max 1 M :=
  (runProgram_J s0 ins (Jq_fresh s0 hf hM) hw).sizes

/-- The same at every intermediate instant (after any prefix of the inputs). -/
theorem C10_batch_sizes_prefix (M : Nat) (s0 : St) (hf : Fresh s0) (hM : s0.maxb ≤ M) (ins : List In)
    (hw : setsWithin M ins) : ∀ n ∈ outSizes (ins.foldl applyIn s0).outs, 1 ≤ n ∧ n ≤ max 1 M :=
  (foldl_applyIn_J ins s0 (Jq_fresh s0 hf hM) hw).sizes

/-- **Concurrency.**  At every instant no more than `max_concurrent_batches` executions of the batch function are in
progress (and nothing ever changes that limit). -/
theorem C10_concurrency (M : Nat) (s0 : St) (hf : Fresh s0) (hM : s0.maxb ≤ M) (ins : List In)
    (hw : setsWithin M ins) :
    (ins.foldl applyIn s0).running.length ≤ s0.maxc ∧ (runProgram s0 ins).running.length ≤ s0.maxc := by
  have h1 := foldl_applyIn_J ins s0 (Jq_fresh s0 hf hM) hw
  have h2 := runProgram_J s0 ins (Jq_fresh s0 hf hM) hw
  exact ⟨foldl_applyIn_maxc ins s0 ▸ h1.slots, (runProgram_steps s0 ins).config.1 ▸ h2.slots⟩

/-- **FIFO.**  The queued calls reach the batch function in the order they arrived, within and across batches,
batches waiting for a slot included: handed over, then waiting for a slot, then being assembled, then still queued
is exactly the arrival sequence. -/
theorem C10_fifo (M : Nat) (s0 : St) (hf : Fresh s0) (hM : s0.maxb ≤ M) (ins : List In)
    (hw : setsWithin M ins) :
    let s := ins.foldl applyIn s0
    s.started ++ flatW s.semWait ++ asmFuts s ++ s.queue.map Item.fut = s.arrivals ∧ s.started <+: s.arrivals :=
  have h := foldl_applyIn_J ins s0 (Jq_fresh s0 hf hM) hw
  ⟨h.fifo, h.started_prefix⟩

theorem C10_fifo_final (M : Nat) (s0 : St) (hf : Fresh s0) (hM : s0.maxb ≤ M) (ins : List In)
    (hw : setsWithin M ins) : (runProgram s0 ins).started <+: (runProgram s0 ins).arrivals :=
  (runProgram_J s0 ins (Jq_fresh s0 hf hM) hw).started_prefix

/-- **The machine is on time** (timing clauses of C10, window clause of C11).  At every input instant `t` at which
the machine did not run out of fuel (`advanceDone`; the driver reports it) no queued call is left over from an
earlier instant, an open assembly has its deadline - `batch_timeout` after it was last extended - at `t` or later,
no running batch is behind its script, no eviction timer is overdue: the machine never lags behind its own timers.
(That an assembly's deadline is `batch_timeout` after its last arrival is how `assemble` sets it, not part of this statement.) -/
theorem C10_on_time (s0 : St) (ins : List In) (t : Nat)
    (hd : advanceDone fuelDefault t true (ins.foldl applyIn s0) = true) :
    OnTime (arrive (ins.foldl applyIn s0) t) t :=
  arrive_onTime _ t hd

/-- Without mutations of `max_batch_size` the bound is the configured one. -/
theorem C10_batch_sizes_fixed (s0 : St) (hf : Fresh s0) (ins : List In)
    (hno : ∀ t n, In.setMax t n ∉ ins) : ∀ n ∈ outSizes (runProgram s0 ins).outs, 1 ≤ n ∧ n ≤ max 1 s0.maxb :=
  C10_batch_sizes_out s0.maxb s0 hf (Nat.le_refl _) ins (fun t n hm => absurd hm (hno t n))

/-- a concrete program: five calls 0,0,1,1,30 with `max_batch_size = 2`, one slot, batches lasting 5 -/
def demoPlan : Plan := { per := [], order := 0, raiseAt := [], idelay := 5, tail := 0 }
def demoSt : St := { maxb := 2, maxc := 1, bt := 10, ret := 0, plan := demoPlan }
def demoIns : List In :=
  [.call 0 0 0 0, .call 0 1 1 1, .call 1 2 2 2, .call 1 3 3 3, .call 30 4 4 4]
example : Fresh demoSt := by simp [Fresh, demoSt]
example : (runProgram demoSt demoIns).batchLog = [(2, 2), (2, 2), (1, 2)] := by decide +kernel
example : (runProgram demoSt demoIns).started = (runProgram demoSt demoIns).arrivals := by decide +kernel
/-- at t = 3 one batch is running in the only slot and the second, already full, waits for it -/
example : ((demoIns.take 4 ++ [In.call 3 9 9 9]).foldl applyIn demoSt).running.length = 1 ∧
    ((demoIns.take 4 ++ [In.call 3 9 9 9]).foldl applyIn demoSt).semWait.length = 1 := by decide +kernel

/-- While a key is remembered (pending, or within the retention window), a further call with
that key adds no work: nothing is queued, no future is created. -/
theorem C11_shared_adds_no_work (s : St) (t cid arg key f : Nat)
    (h : (arrive s t).retention.find? (·.1 == key) = some (key, f)) :
    let s0 := arrive s t
    let s1 := applyIn s (.call t cid arg key)
    s1.queue = s0.queue ∧ s1.arrivals = s0.arrivals ∧ s1.futs = s0.futs ∧ s1.asm = s0.asm ∧
    s1.semWait = s0.semWait ∧ s1.running = s0.running ∧ s1.retention = s0.retention ∧
    (match futState s0 f with
      | some o => s1.outs = s0.outs ++ [Out.done s0.now cid o] ∧ s1.waiting = s0.waiting
      | none => s1.outs = s0.outs ∧ s1.waiting = s0.waiting ++ [(cid, f)]) := by
  simp only [applyIn, In.time, h]
  cases hf : futState (arrive s t) f <;> simp

/-- A call whose key is not remembered creates exactly one new piece of work with a fresh
future and remembers the key. -/
theorem C11_fresh_adds_work (s : St) (t cid arg key : Nat)
    (h : (arrive s t).retention.find? (·.1 == key) = none) :
    let s0 := arrive s t
    let s1 := applyIn s (.call t cid arg key)
    s1.queue = s0.queue ++ [{ key := key, arg := arg, fut := s0.futs.length }] ∧
    s1.arrivals = s0.arrivals ++ [s0.futs.length] ∧
    s1.retention = s0.retention ++ [(key, s0.futs.length)] ∧
    s1.waiting = s0.waiting ++ [(cid, s0.futs.length)] := by
  simp [applyIn, In.time, h]

/-- **C11, "further calls with that key do not add work to any batch", run level.**  Insert, anywhere in any
program, a call by `c` whose key is in the retention table when it arrives (pending, or completed less than
`retention_timeout` ago): compared with the program in which `c` is cancelled at that instant instead (a no-op unless `c` is
suspended from an earlier call), the batch function is invoked with the same batches at the same instants and every
other caller is answered alike. -/
theorem C11_sharer_adds_no_work (s0 : St) (a b : List In) (t c arg key : Nat)
    (hhit : ((arrive (a.foldl applyIn s0) t).retention.find? (·.1 == key)).isSome = true) :
    let with_ := runProgram s0 (a ++ [In.call t c arg key] ++ b)
    let without := runProgram s0 (a ++ [In.cancel t c] ++ b)
    batchesOf with_.outs = batchesOf without.outs ∧
    (∀ c', c' ≠ c → doneOf c' with_.outs = doneOf c' without.outs) ∧
    with_.futs = without.futs ∧ with_.retention = without.retention ∧ with_.queue = without.queue ∧
    with_.running = without.running := by
  obtain ⟨h1, h2, h3, h4, h5, h6, -⟩ := agree_of_strip (strip_sharer (fun x => x == c) s0 a b t c arg key (by simp) hhit)
  exact ⟨h1, fun c' hc' => h2 c' (by simpa using hc'), h3, h4, h6, h5⟩

/-- non-vacuity: in the cancel demo, caller 1's call at t = 1 finds key 7 remembered (caller 0 asked at t = 0) -/
example : ((arrive (([In.call 0 0 0 7] : List In).foldl applyIn cancelSt) 1).retention.find? (·.1 == 7)).isSome = true := by
  decide +kernel

/-- **No duplicate key in a batch.**  For every fresh batcher (any configuration, retention timeout and plan) and every
program of timed inputs - keys shared, repeated, re-requested inside or after the retention window; cancellations;
`max_batch_size` mutations - every batch announced to the batch function carries pairwise distinct keys
(invariant `R`, `Batcher/NoDup.lean`). -/
theorem C11_no_duplicate_key (s0 : St) (hf : Fresh2 s0) (ins : List In) :
    ∀ t id ks, Out.batch t id ks ∈ (runProgram s0 ins).outs → ks.Nodup :=
  (runProgram_Rq s0 ins (Rq_fresh s0 hf)).1.batchesOk

theorem C11_no_duplicate_key_prefix (s0 : St) (hf : Fresh2 s0) (ins : List In) :
    ∀ t id ks, Out.batch t id ks ∈ (ins.foldl applyIn s0).outs → ks.Nodup :=
  (foldl_applyIn_Rq ins s0 (Rq_fresh s0 hf)).1.batchesOk

/-- … and at every instant the pieces of work that have not reached the batch function yet (waiting
for a slot, being assembled, queued) have pairwise distinct keys, each remembered with its own,
still pending future. -/
theorem C11_pending_work_distinct (s0 : St) (hf : Fresh2 s0) (ins : List In) :
    let s := ins.foldl applyIn s0
    let work := flatI s.semWait ++ (asmI s ++ s.queue)
    (work.map Item.key).Nodup ∧ ∀ it ∈ work, (it.key, it.fut) ∈ s.retention ∧ futState s it.fut = none := by
  intro s work
  have h := (foldl_applyIn_Rq ins s0 (Rq_fresh s0 hf)).1
  have h' : R s (work ++ []) := by rw [List.append_nil]; exact h
  obtain ⟨h0, hrd⟩ := h'.dropFront
  exact ⟨hrd.keysNodup h0, fun it hit => ⟨(h.pipeRet it hit).1, (h.pipeRet it hit).2.1⟩⟩

/-- three calls for one key inside the retention window: one piece of work, one batch -/
example : (runProgram { maxb := 3, maxc := 1, bt := 10, ret := 100, plan := demoPlanK }
    [.call 0 0 0 7, .call 1 1 0 7, .call 50 2 0 7, .call 500 3 0 7]).batchLog = [(1, 3), (1, 3)] := by decide +kernel

/-- **`retention_timeout = 0`: nothing is remembered once it has been answered.**  Whatever the
retention table holds is still pending. -/
theorem C11_retention_zero_forgets (s0 : St) (hf : Fresh4 s0) (hz : s0.ret = 0) (ins : List In) :
    ∀ e ∈ (ins.foldl applyIn s0).retention, futState (ins.foldl applyIn s0) e.2 = none := by
  refine zero_forgets (foldl_applyIn_T ins s0 (T_fresh s0 hf)) ?_
  rw [foldl_applyIn_ret]
  exact hz

/-- **A call that arrives after the window never receives the old result.**  At an input instant `t` before which
every due timer has fired (`advanceDone`) a remembered future that has its answer was answered at some `c` with
`t ≤ c + retention_timeout`: an answer older than the window is not remembered any more (and a call for a key
that is not remembered is new work, `C11_fresh_adds_work`). -/
theorem C11_old_result_only_within_window (s0 : St) (hf : Fresh4 s0) (ins : List In) (t : Nat)
    (hd : advanceDone fuelDefault t true (ins.foldl applyIn s0) = true) :
    let s := arrive (ins.foldl applyIn s0) t
    ∀ e ∈ s.retention, futState s e.2 ≠ none → ∃ c, (e.2, e.1, c) ∈ s.doneAt ∧ t ≤ c + s.ret ∧ c ≤ s.now :=
  old_result_only_within_window _ (foldl_applyIn_T ins s0 (T_fresh s0 hf)) t hd

/-- **Inside the window the answer stays remembered.**  A remembered future `g` of key `k` that has its answer was
answered at some `c`, and an input arriving at any `t ≤ c + retention_timeout` still finds `(k, g)` remembered,
whatever batches ran and whichever other keys expired in between: a call for `k` is served from `g` and adds no work
(`C11_shared_adds_no_work`).  (At `t = c + retention_timeout` exactly the machine flags a tie between the timer and
the input; the implementation decides that instant with `>=`: new work.) -/
theorem C11_remembered_throughout_window (s0 : St) (hf : Fresh4 s0) (ins : List In) (k g : Nat)
    (hm : (k, g) ∈ (ins.foldl applyIn s0).retention) (hd : futState (ins.foldl applyIn s0) g ≠ none) :
    ∃ c, (g, k, c) ∈ (ins.foldl applyIn s0).doneAt ∧ c ≤ (ins.foldl applyIn s0).now ∧
      ∀ t, t ≤ c + (ins.foldl applyIn s0).ret → (k, g) ∈ (arrive (ins.foldl applyIn s0) t).retention := by
  have hT := foldl_applyIn_T ins s0 (T_fresh s0 hf)
  have hR := foldl_applyIn_Rq ins s0 (Rq_fresh s0 hf.1.1)
  obtain ⟨c, a, b, d⟩ := retained_answered_has_timer hT k g hm hd
  refine ⟨c, a, d, ?_⟩
  intro t ht
  exact (answered_stays_until_timer fuelDefault t _ hR hT k g _ hm b ht).1

/-- **A future is answered once.**  A future that has the answer `o` after some prefix of the inputs has it after every
longer prefix and after the drain: other batches, failing batches fanning their error out, repeated or unknown
keys, cancellations do not touch it (`resolve` is only ever applied to futures without an answer: `R`, `RB`). -/
theorem C04_answer_is_final (s0 : St) (hf : Fresh2 s0) (ins more : List In) (g : Nat) (o : Outcome)
    (h : futState (ins.foldl applyIn s0) g = some o) :
    futState ((ins ++ more).foldl applyIn s0) g = some o ∧ futState (runProgram s0 (ins ++ more)) g = some o := by
  have hq := foldl_applyIn_Rq ins s0 (Rq_fresh s0 hf)
  have h1 : futState ((ins ++ more).foldl applyIn s0) g = some o := by
    rw [List.foldl_append]
    exact foldl_applyIn_Stays more _ hq g o h
  refine ⟨h1, ?_⟩
  unfold runProgram
  exact advance_Stays _ _ _ _ (foldl_applyIn_Rq (ins ++ more) s0 (Rq_fresh s0 hf)) g o h1

theorem find_of_nodup_mem {l : List (Nat × Nat)} (hn : (l.map (·.1)).Nodup) {k g : Nat} (hm : (k, g) ∈ l) :
    l.find? (·.1 == k) = some (k, g) := by
  cases hf : l.find? (·.1 == k) with
  | none => simpa using List.find?_eq_none.mp hf (k, g) hm
  | some p =>
    have hk : p.1 = k := by simpa using List.find?_some hf
    rw [nodup_map_inj (·.1) hn (List.mem_of_find?_eq_some hf) hm hk]

/-- **A sharer inside the window receives the original's outcome.**  If key `k` is remembered with a future whose
answer is `o`, answered at `c`, a call for `k` arriving at any `t ≤ c + retention_timeout` is answered at once with
`o`; it is not queued and changes no batch (`C11_shared_adds_no_work`). -/
theorem C11_sharer_receives_the_original_outcome (s0 : St) (hf : Fresh4 s0) (ins : List In) (k g : Nat) (o : Outcome)
    (hm : (k, g) ∈ (ins.foldl applyIn s0).retention) (hd : futState (ins.foldl applyIn s0) g = some o) :
    ∃ c, (g, k, c) ∈ (ins.foldl applyIn s0).doneAt ∧
      ∀ t cid arg, t ≤ c + (ins.foldl applyIn s0).ret →
        (applyIn (ins.foldl applyIn s0) (.call t cid arg k)).outs =
          (arrive (ins.foldl applyIn s0) t).outs ++ [Out.done (arrive (ins.foldl applyIn s0) t).now cid o] := by
  have hR := foldl_applyIn_Rq ins s0 (Rq_fresh s0 hf.1.1)
  obtain ⟨c, a, _, hw⟩ := C11_remembered_throughout_window s0 hf ins k g hm (by rw [hd]; simp)
  refine ⟨c, a, ?_⟩
  intro t cid arg ht
  have hmem := hw t ht
  have hRa := arrive_Rq _ t hR
  have hfind := find_of_nodup_mem hRa.1.retNodup hmem
  have hst := arrive_Stays _ t hR g o hd
  simp only [applyIn, In.time, hfind, hst]

/-- non-vacuity: key 7 asked at 0, answered at 15 (`batch_timeout` 10 + 5 per item), `retention_timeout`
100: at t = 50 it is remembered with its answer, recorded as answered at 15, timer at 115; at t = 500
nothing is remembered and the machine had not run out of fuel -/
def windowSt : St := { maxb := 3, maxc := 1, bt := 10, ret := 100, plan := demoPlanK }
def windowIns : List In := [.call 0 0 0 7, .call 50 1 0 7]
example : Fresh4 windowSt := by simp [Fresh4, Fresh3, Fresh2, Fresh, windowSt]
example : (windowIns.foldl applyIn windowSt).retention = [(7, 0)] ∧
    futState (windowIns.foldl applyIn windowSt) 0 = some (.ok 7 0 0) ∧
    (windowIns.foldl applyIn windowSt).doneAt = [(0, 7, 15)] ∧
    (windowIns.foldl applyIn windowSt).evict = [(115, 7)] := by decide +kernel
example : advanceDone fuelDefault 500 true (windowIns.foldl applyIn windowSt) = true := by decide +kernel
example : (arrive (windowIns.foldl applyIn windowSt) 500).retention = [] := by decide +kernel
example : (arrive (windowIns.foldl applyIn windowSt) 115).retention = [(7, 0)] := by decide +kernel

end AiutiVerif.Batcher
