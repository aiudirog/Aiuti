import AiutiVerif.Batcher.Outcome
/-!
# What `pump` does, read off the batch alone

`pump` reads nothing of the state but the clock: it is a `resolveList` of a list computed from the batch
(`pumpL`, `pump_eq`).  That list splits the batch's dict of unanswered futures into those it answers, each
once, and those that remain (`pumpL_spec`), and it is a prefix of the untimed reading `runScript`
(`pumpL_runScript`).
-/
namespace AiutiVerif.Batcher

@[simp] theorem resolveList_nil (s : St) : resolveList s [] = s := rfl
@[simp] theorem resolveList_cons (s : St) (p : Nat × Outcome) (l : List (Nat × Outcome)) :
    resolveList s (p :: l) = resolveList (resolve s p.1 p.2) l := rfl

theorem resolveList_append (s : St) (a b : List (Nat × Outcome)) :
    resolveList s (a ++ b) = resolveList (resolveList s a) b := by
  unfold resolveList; rw [List.foldl_append]

theorem resolveList_induct {P : St → Prop} (h : ∀ s f o, P s → P (resolve s f o)) :
    ∀ (l : List (Nat × Outcome)) (s : St), P s → P (resolveList s l)
  | [], _, hs => hs
  | p :: l, s, hs => resolveList_induct h l _ (h s p.1 p.2 hs)

theorem resolveList_now : ∀ (l : List (Nat × Outcome)) (s : St), (resolveList s l).now = s.now :=
  fun l s => resolveList_induct (P := fun s' => s'.now = s.now) (fun _ _ _ h => h) l s rfl

/-- what `pump` resolves for `b` when the clock shows `now`, and what is left of `b` (`pump_eq`) -/
def pumpL : Nat → Nat → Batch → List (Nat × Outcome) × Option Batch
  | 0, _, b => ([], some b)
  | fuel + 1, now, b =>
    if b.next ≤ now then
      match b.script with
      | [] => ([], none)
      | (_, act) :: rest =>
        match actStep b.futs act with
        | (res, futs', true) =>
          let r := pumpL fuel now
            { b with futs := futs', script := rest, next := now + (rest.head?.map (·.1)).getD 0 }
          (res ++ r.1, r.2)
        | (res, _, false) => (res, none)
    else ([], some b)

theorem pump_eq : ∀ (fuel : Nat) (s : St) (b : Batch),
    pump fuel s b = (resolveList s (pumpL fuel s.now b).1, (pumpL fuel s.now b).2)
  | 0, _, _ => rfl
  | fuel + 1, s, b => by
    unfold pump pumpL
    by_cases hd : b.next ≤ s.now
    · simp only [hd, if_true]
      cases b.script with
      | nil => rfl
      | cons pa =>
        rcases hstep : actStep b.futs pa.2 with ⟨res, futs', cont⟩
        cases cont with
        | true => simp only [hstep]; rw [pump_eq fuel, resolveList_now, resolveList_append]
        | false => simp only [hstep]
    · simp only [hd, if_false]; rfl

theorem pumpL_same : ∀ (fuel now : Nat) (b b' : Batch), (pumpL fuel now b).2 = some b' →
    b'.id = b.id ∧ b'.items = b.items ∧ b'.bound = b.bound
  | 0, _, b, b', h => by cases h; exact ⟨rfl, rfl, rfl⟩
  | fuel + 1, now, b, b', h => by
    unfold pumpL at h
    split at h
    · split at h
      · cases h
      · split at h
        · have := pumpL_same fuel now _ b' h
          exact this
        · cases h
    · cases h; exact ⟨rfl, rfl, rfl⟩

def isTerm : Act → Bool
  | .yield _ _ => false
  | _ => true

/-- the script's last action is `fin` or `raise` -/
def endsT : Script → Bool
  | [] => false
  | (_, a) :: [] => isTerm a
  | _ :: (y :: r) => endsT (y :: r)

theorem endsT_cons (x : Nat × Act) (r : Script) (h : r ≠ []) : endsT (x :: r) = endsT r := by
  cases r with
  | nil => exact absurd rfl h
  | cons => rfl

theorem endsT_ne_nil {s : Script} (h : endsT s = true) : s ≠ [] := by
  intro e; subst e; simp [endsT] at h

theorem endsT_append (a b : Script) (h : endsT b = true) : endsT (a ++ b) = true := by
  induction a with
  | nil => exact h
  | cons x a ih =>
    have : a ++ b ≠ [] := endsT_ne_nil ih
    rw [List.cons_append, endsT_cons _ _ this]; exact ih

theorem endsT_term : ∀ {sc : Script}, endsT sc = true → ∃ a ∈ sc.map (·.2), a = Act.fin ∨ ∃ c, a = Act.raise c
  | [(_, a)], h => ⟨a, List.mem_singleton.mpr rfl, by cases a <;> simp_all [endsT, isTerm]⟩
  | _ :: y :: r, h => have ⟨a, ha, hh⟩ := endsT_term (sc := y :: r) h; ⟨a, List.mem_cons_of_mem _ ha, hh⟩

theorem behaviourGo_endsT (p : Plan) (b ra : Nat) :
    ∀ (items : List (Nat × Nat)) (j : Nat) (seen : List (Nat × Nat)),
      endsT (behaviourGo p b ra items j seen).1 = true := by
  intro items
  induction items with
  | nil => intro j seen; rfl
  | cons it rest ih =>
    intro j seen
    obtain ⟨k, a⟩ := it
    unfold behaviourGo
    split
    · rfl
    · exact endsT_append _ _ (ih (j + 1) (setKV seen k (lookupD seen k 0 + 1)))

theorem behaviour_endsT (p : Plan) (b : Nat) (batch : List (Nat × Nat)) (seen : List (Nat × Nat)) :
    endsT (behaviour p b batch seen).1 = true := by
  unfold behaviour
  exact behaviourGo_endsT _ _ _ _ _ _

/-- `res` are answered, each once and from the dict `futs`; `futs'` remains (`Covers`: and nothing is lost) -/
structure Splits (futs : List (Nat × Nat)) (res : List Nat) (futs' : List (Nat × Nat)) : Prop where
  nodup : res.Nodup
  mem : ∀ f ∈ res, f ∈ futs.map (·.2)
  sub : futs'.Sublist futs
  disj : ∀ e ∈ futs', e.2 ∉ res

def Covers (futs : List (Nat × Nat)) (res : List Nat) (futs' : List (Nat × Nat)) : Prop :=
  ∀ e ∈ futs, e.2 ∈ res ∨ e ∈ futs'

theorem Splits.refl (futs : List (Nat × Nat)) : Splits futs [] futs :=
  ⟨List.nodup_nil, nofun, List.Sublist.refl _, fun _ _ h => nomatch h⟩

theorem Splits.trans {a b c : List (Nat × Nat)} {r1 r2 : List Nat} (h1 : Splits a r1 b) (h2 : Splits b r2 c) :
    Splits a (r1 ++ r2) c := by
  refine ⟨List.nodup_append.mpr ⟨h1.nodup, h2.nodup, ?_⟩, ?_, h2.sub.trans h1.sub, ?_⟩
  · intro f hf g hg hfg
    obtain ⟨e, he, rfl⟩ := List.mem_map.mp (h2.mem g hg)
    exact h1.disj e he (hfg ▸ hf)
  · intro f hf
    rcases List.mem_append.mp hf with hf | hf
    · exact h1.mem f hf
    · exact (h1.sub.map _).subset (h2.mem f hf)
  · intro e he hm
    rcases List.mem_append.mp hm with hm | hm
    · exact h1.disj e (h2.sub.subset he) hm
    · exact h2.disj e he hm

theorem Covers.trans {a b c : List (Nat × Nat)} {r1 r2 : List Nat} (h1 : Covers a r1 b) (h2 : Covers b r2 c) :
    Covers a (r1 ++ r2) c := by
  intro e he
  rcases h1 e he with h | h
  · exact .inl (List.mem_append_left _ h)
  · exact (h2 e h).imp (List.mem_append_right _) id

theorem actStep_splits {futs futs' : List (Nat × Nat)} {act : Act} {res : List (Nat × Outcome)} {cont : Bool}
    (h : actStep futs act = (res, futs', cont)) (hk : (futs.map (·.1)).Nodup) (hf : (futs.map (·.2)).Nodup) :
    Splits futs (res.map (·.1)) futs' ∧ Covers futs (res.map (·.1)) futs' ∧
    (cont = true → isTerm act = false) ∧ (cont = false → futs' = []) := by
  have mem : ∀ f ∈ res.map (·.1), f ∈ futs.map (·.2) := fun f hf => by
    obtain ⟨p, hp, rfl⟩ := List.mem_map.mp hf
    exact (actStep_ids h).1 p hp
  rcases actStep_cases futs act with ⟨k, r, f, rfl, hmem, e⟩ | ⟨o, e⟩ <;> cases h.symm.trans e
  · refine ⟨⟨List.nodup_cons.mpr ⟨List.not_mem_nil, List.nodup_nil⟩, mem, List.filter_sublist, ?_⟩, ?_, fun _ => rfl, nofun⟩
    · intro e he hm
      obtain ⟨he1, he2⟩ := (mem_eraseKey _ _ _).mp he
      exact he2 (congrArg Prod.fst (nodup_map_inj (·.2) hf he1 hmem (List.mem_singleton.mp hm)))
    · intro e he
      by_cases hek : e.1 = k
      · exact .inl (List.mem_singleton.mpr (congrArg Prod.snd (nodup_map_inj (·.1) hk he hmem hek)))
      · exact .inr ((mem_eraseKey _ _ _).mpr ⟨he, hek⟩)
  · rw [List.map_map] at mem ⊢
    exact ⟨⟨hf, mem, List.nil_sublist _, nofun⟩, fun e he => .inl (List.mem_map_of_mem he), nofun, fun _ => rfl⟩

def remaining : Option Batch → List (Nat × Nat)
  | some b' => b'.futs
  | none => []

/-- Nothing is lost only if the script ends with `fin` or `raise`: an empty script drops the batch unanswered. -/
theorem pumpL_spec : ∀ (fuel now : Nat) (b : Batch), (b.futs.map (·.1)).Nodup → (b.futs.map (·.2)).Nodup →
    Splits b.futs ((pumpL fuel now b).1.map (·.1)) (remaining (pumpL fuel now b).2) ∧
    (endsT b.script = true → Covers b.futs ((pumpL fuel now b).1.map (·.1)) (remaining (pumpL fuel now b).2) ∧
      ∀ b', (pumpL fuel now b).2 = some b' → endsT b'.script = true)
  | 0, _, b, _, _ => ⟨Splits.refl _, fun he => ⟨fun _ h => .inr h, fun _ h => by cases h; exact he⟩⟩
  | fuel + 1, now, b, hk, hf => by
    unfold pumpL
    split
    · split
      · rename_i hs
        exact ⟨⟨List.nodup_nil, nofun, List.nil_sublist _, nofun⟩, fun he => by rw [hs] at he; cases he⟩
      · rename_i d act rest hs
        split
        · rename_i res futs' hact
          obtain ⟨h1, h2, h3, _⟩ := actStep_splits hact hk hf
          obtain ⟨i1, i2⟩ := pumpL_spec fuel now
            { b with futs := futs', script := rest, next := now + (rest.head?.map (·.1)).getD 0 }
            ((h1.sub.map _).nodup hk) ((h1.sub.map _).nodup hf)
          simp only [List.map_append]
          refine ⟨h1.trans i1, fun he => ?_⟩
          -- the action was a yield, so the script goes on and still ends with `fin` or `raise`
          have hrest : rest ≠ [] := by
            intro e
            rw [hs, e] at he
            simp [endsT, h3 rfl] at he
          rw [hs, endsT_cons _ _ hrest] at he
          exact ⟨h2.trans (i2 he).1, (i2 he).2⟩
        · rename_i res x hact
          obtain ⟨h1, h2, _, h4⟩ := actStep_splits hact hk hf
          cases h4 rfl
          exact ⟨h1, fun _ => ⟨h2, nofun⟩⟩
    · exact ⟨Splits.refl _, fun he => ⟨fun _ h => .inr h, fun _ h => by cases h; exact he⟩⟩

def acts (sc : Script) : List Act := sc.map (·.2)

theorem pumpL_runScript : ∀ (fuel now : Nat) (b : Batch),
    (pumpL fuel now b).1 ++ (match (pumpL fuel now b).2 with
      | some b' => runScript b'.futs (acts b'.script)
      | none => []) = runScript b.futs (acts b.script)
  | 0, _, _ => rfl
  | fuel + 1, now, b => by
    unfold pumpL
    split
    · cases hs : b.script with
      | nil => rfl
      | cons pa =>
        rcases hstep : actStep b.futs pa.2 with ⟨res, futs', cont⟩
        simp only [acts, List.map_cons]
        conv => rhs; unfold runScript
        cases cont with
        | true =>
          simp only [hstep, List.append_assoc]
          exact congrArg (res ++ ·) (pumpL_runScript fuel now _)
        | false => simp only [hstep, List.append_nil]
    · exact List.nil_append _

end AiutiVerif.Batcher
