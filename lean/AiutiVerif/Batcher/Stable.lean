import AiutiVerif.Batcher.NoDup
/-!
# An answer is final   (C04 "exactly its own outcome", C11 "the same outcome as the original")

`resolve` would overwrite the state of a future that already has its answer.  It is never asked to: in every
reachable state (`Rq`) a running batch answers futures of its own dict only, and those are pending (`RB`); new
batches are built from queued items whose futures are pending.  Hence a future that has the answer `o` keeps it
(`Stays`): whoever reads it later (a sharer inside the retention window) reads what the original caller was woken with.
-/
namespace AiutiVerif.Batcher

def Stays (s s' : St) : Prop := ∀ g o, futState s g = some o → futState s' g = some o

theorem Stays.refl (s : St) : Stays s s := fun _ _ h => h
theorem Stays.trans {a b c : St} (h1 : Stays a b) (h2 : Stays b c) : Stays a c := fun g o h => h2 g o (h1 g o h)
theorem Stays.of_eq {s s' : St} (e : s'.futs = s.futs) : Stays s s' := by
  intro g o h
  unfold futState at h ⊢
  rw [e]; exact h

theorem Stays_step {l : Label} {s s' : St} {q q' : List Item} (st : Step l s q s' q') (h : RI s q) : Stays s s' := by
  cases st with
  | @run fuel _ _ b hb =>
    intro g o hg
    obtain ⟨hk, hf, hpend⟩ := h.2 b hb
    show futState (resolveList s (pumpL fuel s.now b).1) g = some o
    rw [futState_resolveList _ s g]
    · exact hg
    · intro hm
      obtain ⟨e, he, rfl⟩ := List.mem_map.mp ((pumpL_spec fuel s.now b hk hf).1.mem g hm)
      rw [hpend e he] at hg
      cases hg
  | fresh t cid arg key => exact fun g o hg => (futState_fresh s cid arg key g).trans hg
  | _ => exact Stays.of_eq rfl

theorem Stays_steps {A : Label → Prop} {s s' : St} (h : Steps A s s.queue s' s'.queue) (hr : Rq s) : Stays s s' :=
  (h.induct (P := fun s' q' => RI s' q' ∧ Stays s s')
    (fun st _ hp => ⟨RI_step st hp.1, hp.2.trans (Stays_step st hp.1)⟩) ⟨hr, Stays.refl s⟩).2

theorem advance_Stays (fuel t : Nat) (strict : Bool) (s : St) (h : Rq s) : Stays s (advance fuel t strict s) :=
  Stays_steps (advance_steps t strict fuel s) h

theorem arrive_Stays (s : St) (t : Nat) (h : Rq s) : Stays s (arrive s t) := Stays_steps (arrive_steps s t) h

theorem foldl_applyIn_Stays (ins : List In) (s : St) (h : Rq s) : Stays s (ins.foldl applyIn s) :=
  Stays_steps (foldl_steps ins s) h

theorem runProgram_Stays (s : St) (ins : List In) (h : Rq s) : Stays s (runProgram s ins) :=
  Stays_steps (runProgram_steps s ins) h

end AiutiVerif.Batcher
