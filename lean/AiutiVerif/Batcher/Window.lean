import AiutiVerif.Batcher.Answer

/-!
# The retention window   (property C11, the clauses about *time*)

`AsyncBackgroundBatcher` remembers the future of a key while the request is pending and for
`retention_timeout` after it was answered.  `NoDup.lean` proves what is shared; this file proves **when**: the
invariant `T` ties every eviction timer to the instant its future was answered (ghost field `doneAt`, written by
`resolve` only) and every remembered answered future to its timer.  `T` needs no side condition: every primitive
move keeps it, whichever future is answered.
-/
namespace AiutiVerif.Batcher

/-- `retRange` and `zeroNoTimer` repeat `R.retRange` and `R.retZero`, so that every move keeps `T` on its own. -/
structure T (s : St) : Prop where
  timerDone : ∀ t ∈ s.evict, ∃ f c, (f, t.2, c) ∈ s.doneAt ∧ t.1 = c + s.ret
  doneTimer : ∀ e ∈ s.retention, futState s e.2 ≠ none →
    ∃ c, (e.2, e.1, c) ∈ s.doneAt ∧ (c + s.ret, e.1) ∈ s.evict
  donePast : ∀ d ∈ s.doneAt, d.2.2 ≤ s.now
  retKey : ∀ e ∈ s.retention, futKey s e.2 = e.1
  retRange : ∀ e ∈ s.retention, e.2 < s.futs.length
  zeroNoTimer : s.ret = 0 → s.evict = []

theorem resolve_T (s : St) (f : Nat) (o : Outcome) (h : T s) : T (resolve s f o) :=
  have kept : ∀ {x}, x ∈ s.doneAt → x ∈ (resolve s f o).doneAt := List.mem_append_left _
  have now : (f, futKey s f, s.now) ∈ (resolve s f o).doneAt := List.mem_concat_self
  { timerDone := fun t ht => by
      rcases (mem_resolve_evict s f o t).mp ht with ht | ⟨-, rfl⟩
      · obtain ⟨g, c, a, b⟩ := h.timerDone t ht
        exact ⟨g, c, kept a, b⟩
      · exact ⟨f, s.now, now, rfl⟩
    doneTimer := fun e he hne => by
      by_cases hef : e.2 = f
      · -- the future that has just been answered is still remembered, so a timer was set
        have hk : e.1 = futKey s f := hef ▸ (h.retKey e (resolve_retention_subset he)).symm
        have hp := ((mem_resolve_retention s f o e).mp he).2.resolve_right fun hk' => hk' hk
        exact ⟨s.now, by rw [hef, hk]; exact now, (mem_resolve_evict s f o _).mpr (.inr ⟨hp, by rw [hk]; rfl⟩)⟩
      · obtain ⟨c, a, b⟩ := h.doneTimer e (resolve_retention_subset he) (futState_resolve_ne s f e.2 o hef ▸ hne)
        exact ⟨c, kept a, (mem_resolve_evict s f o _).mpr (.inl b)⟩
    donePast := fun d hd => (List.mem_append.mp hd).elim (h.donePast d) fun hd => by
      cases List.mem_singleton.mp hd
      exact Nat.le_refl _
    retKey := fun e he => (futKey_resolve s f e.2 o).trans (h.retKey e (resolve_retention_subset he))
    retRange := fun e he => futsLen_resolve s f o ▸ h.retRange e (resolve_retention_subset he)
    zeroNoTimer := fun (hz : s.ret = 0) => by rw [resolve_evict, if_neg (by omega)]; exact h.zeroNoTimer hz }

theorem mem_evict_after (l : List (Nat × Nat)) (when key : Nat) (t : Nat × Nat) :
    t ∈ l.filter (fun e => !(e.1 == when && e.2 == key)) ++ ((l.filter (fun e => e.1 == when && e.2 == key)).drop 1) →
    t ∈ l := fun h =>
  (List.mem_append.mp h).elim (fun h => (List.mem_filter.mp h).1) fun h => (List.mem_filter.mp (List.mem_of_mem_drop h)).1

theorem mem_evict_other (l : List (Nat × Nat)) (when key : Nat) (t : Nat × Nat) (h : t ∈ l) (hk : t.2 ≠ key) :
    t ∈ l.filter (fun e => !(e.1 == when && e.2 == key)) ++ ((l.filter (fun e => e.1 == when && e.2 == key)).drop 1) :=
  List.mem_append_left _ (List.mem_filter.mpr ⟨h, by simp [hk]⟩)

theorem evictSt_T (s : St) (when key : Nat) (h : T s) : T (evictSt s when key) :=
  { h with
    timerDone := fun t ht => h.timerDone t (mem_evict_after _ _ _ _ ht)
    doneTimer := fun e he hne =>
      have ⟨c, a, b⟩ := h.doneTimer e (eraseKey_subset he) hne
      ⟨c, a, mem_evict_other _ _ _ _ b ((mem_eraseKey _ _ _).mp he).2⟩
    retKey := fun e he => h.retKey e (eraseKey_subset he)
    retRange := fun e he => h.retRange e (eraseKey_subset he)
    zeroNoTimer := fun (hz : s.ret = 0) => by
      show s.evict.filter _ ++ _ = []
      rw [h.zeroNoTimer hz]
      rfl }

theorem fresh_T (s : St) (cid arg key : Nat) (h : T s) : T (freshSt s cid arg key) :=
  have hst := futState_fresh s cid arg key
  have hlen := futsLen_fresh s cid arg key
  { h with
    doneTimer := fun e he hne => (List.mem_append.mp he).elim (fun he => h.doneTimer e he (hst _ ▸ hne)) fun he => by
      cases List.mem_singleton.mp he
      exact absurd ((hst _).trans (futState_beyond (Nat.le_refl _))) hne
    retKey := forall_mem_snoc (fun e he => (futKey_fresh s cid arg key (h.retRange e he)).trans (h.retKey e he))
      (futKey_fresh_new s cid arg key)
    retRange := forall_mem_snoc (fun e he => hlen ▸ Nat.lt_succ_of_lt (h.retRange e he)) (hlen ▸ Nat.lt_succ_self _) }

theorem T_step {l : Label} {s s' : St} {q q' : List Item} (st : Step l s q s' q') (h : T s) : T s' := by
  cases st with
  | run => exact { resolveList_induct resolve_T _ s h with }
  | tick n tie hle => exact { h with donePast := fun d hd => Nat.le_trans (h.donePast d hd) hle }
  | evict => exact evictSt_T s _ _ h
  | fresh t cid arg key => exact fresh_T s cid arg key h
  | _ => exact { h with }

theorem T_steps {A : Label → Prop} {s s' : St} {q q' : List Item} (h : Steps A s q s' q') : T s → T s' :=
  h.induct (P := fun s _ => T s) fun st _ => T_step st

theorem arrive_T (s : St) (t : Nat) (h : T s) : T (arrive s t) := T_steps (arrive_steps s t) h

theorem foldl_applyIn_T (ins : List In) (s : St) (h : T s) : T (ins.foldl applyIn s) := T_steps (foldl_steps ins s) h

theorem runProgram_T (s : St) (ins : List In) (h : T s) : T (runProgram s ins) := T_steps (runProgram_steps s ins) h

def Fresh4 (s : St) : Prop := Fresh3 s ∧ s.doneAt = []

theorem T_fresh (s : St) (h : Fresh4 s) : T s := by
  obtain ⟨⟨⟨_, hr, he, hf⟩, _⟩, hd⟩ := h
  exact ⟨by simp [he], by simp [hr], by simp [hd], by simp [hr], by simp [hr], fun _ => he⟩

theorem foldl_applyIn_ret (ins : List In) (s : St) : (ins.foldl applyIn s).ret = s.ret := (foldl_steps ins s).config.2

theorem retained_answered_has_timer {s : St} (h : T s) (k g : Nat) (hm : (k, g) ∈ s.retention)
    (hd : futState s g ≠ none) : ∃ c, (g, k, c) ∈ s.doneAt ∧ (c + s.ret, k) ∈ s.evict ∧ c ≤ s.now := by
  obtain ⟨c, a, b⟩ := h.doneTimer (k, g) hm hd
  exact ⟨c, a, b, h.donePast _ a⟩

theorem zero_forgets {s : St} (h : T s) (hz : s.ret = 0) : ∀ e ∈ s.retention, futState s e.2 = none :=
  fun e he => Decidable.byContradiction fun hne => by
    obtain ⟨c, _, b⟩ := h.doneTimer e he hne
    rw [h.zeroNoTimer hz] at b
    cases b

/-- nothing that `advance … t strict` would still fire is pending -/
def Quiet (s : St) (t : Nat) (strict : Bool) : Prop :=
  ∀ c ∈ candidates s, ¬ (c.1 < t ∨ (¬ strict ∧ c.1 = t))

theorem quiet_of_min (s : St) (t : Nat) (strict : Bool)
    (h : ∀ m, minEv (candidates s) = some m → ¬ (m.1 < t ∨ (¬ strict ∧ m.1 = t))) : Quiet s t strict := by
  intro c hc hcd
  have hs := minEv_spec (candidates s)
  cases hm : minEv (candidates s) with
  | none => rw [hm] at hs; rw [hs] at hc; cases hc
  | some m =>
    rw [hm] at hs
    have hle := hs.2 c hc
    apply h m hm
    rcases hcd with hcd | hcd
    · exact .inl (by omega)
    · by_cases hlt : m.1 < t
      · exact .inl hlt
      · exact .inr ⟨hcd.1, by omega⟩

theorem advance_quiet : ∀ (fuel t : Nat) (strict : Bool) (s : St), advanceDone fuel t strict s = true →
    Quiet (advance fuel t strict s) t strict
  | 0, t, strict, s, h => quiet_of_min s t strict fun m hm => by
    unfold advanceDone at h
    rw [hm] at h
    simpa only [Bool.not_eq_true', decide_eq_false_iff_not] using h
  | fuel + 1, t, strict, s, h => by
    unfold advance
    unfold advanceDone at h
    split
    · rename_i hm
      exact quiet_of_min s t strict fun m hm' => by rw [hm] at hm'; cases hm'
    · rename_i when p1 p2 ev hm
      rw [hm] at h
      simp only [] at h
      split
      · rename_i hdue
        rw [if_pos hdue] at h
        exact advance_quiet fuel t strict _ h
      · rename_i hdue
        exact quiet_of_min s t strict fun m hm' => by rw [hm] at hm'; cases hm'; exact hdue

theorem Quiet.le {s : St} {t : Nat} (h : Quiet s t true) : ∀ c ∈ candidates s, t ≤ c.1 := fun c hc =>
  Nat.le_of_not_lt fun hlt => h c hc (.inl hlt)

theorem quiet_timers {s : St} {t : Nat} (h : Quiet s t true) : ∀ e ∈ s.evict, t ≤ e.1 := fun e he =>
  h.le (e.1, 3, e.2, Ev.evictK e.2) (List.mem_append_right _ (List.mem_map.mpr ⟨e, he, rfl⟩))

theorem old_result_only_within_window (s : St) (h : T s) (t : Nat)
    (hd : advanceDone fuelDefault t true s = true) :
    ∀ e ∈ (arrive s t).retention, futState (arrive s t) e.2 ≠ none →
      ∃ c, (e.2, e.1, c) ∈ (arrive s t).doneAt ∧ t ≤ c + (arrive s t).ret ∧ c ≤ (arrive s t).now := by
  intro e he hne
  obtain ⟨c, a, b, d⟩ := retained_answered_has_timer (arrive_T s t h) e.1 e.2 he hne
  -- `arrive` only moves the clock on: the timers are those `advance` left
  exact ⟨c, a, quiet_timers (advance_quiet fuelDefault t true s hd) _ b, d⟩

/-- key `k` stays remembered and its timers stay pending: with `retention_timeout > 0` only its own timer ends that -/
def Keeps (k : Nat) (s s' : St) : Prop :=
  (∀ g, (k, g) ∈ s.retention → (k, g) ∈ s'.retention) ∧ (∀ tm, (tm, k) ∈ s.evict → (tm, k) ∈ s'.evict) ∧ s'.ret = s.ret

theorem Keeps.trans {k : Nat} {a b c : St} (h1 : Keeps k a b) (h2 : Keeps k b c) : Keeps k a c :=
  ⟨fun g h => h2.1 g (h1.1 g h), fun t h => h2.2.1 t (h1.2.1 t h), h2.2.2.trans h1.2.2⟩

theorem resolve_Keeps (k : Nat) (s : St) (f : Nat) (o : Outcome) (hr : s.ret > 0) : Keeps k s (resolve s f o) :=
  ⟨fun _ he => (mem_resolve_retention s f o _).mpr ⟨he, .inl hr⟩, fun _ ht => (mem_resolve_evict s f o _).mpr (.inl ht), rfl⟩

theorem Keeps_step {l : Label} {s s' : St} {q q' : List Item} (st : Step l s q s' q') (hr : s.ret > 0) (k : Nat)
    (hne : ∀ when, l ≠ .evict when k) : Keeps k s s' := by
  have refl : Keeps k s s := ⟨fun _ h => h, fun _ h => h, rfl⟩
  cases st with
  | run =>
    exact (resolveList_induct (P := fun s' => Keeps k s s')
      (fun s' f o h => h.trans (resolve_Keeps k s' f o (h.2.2 ▸ hr))) _ s refl)
  | @evict _ _ when key =>
    have hkk : k ≠ key := fun h => hne when (h ▸ rfl)
    exact ⟨fun g h => (mem_eraseKey _ _ _).mpr ⟨h, hkk⟩, fun t h => mem_evict_other _ _ _ _ h hkk, rfl⟩
  | fresh => exact ⟨fun g h => List.mem_append_left _ h, fun _ h => h, rfl⟩
  | _ => exact refl

/-- `tm` is `c + retention_timeout` for the instant `c` of the answer, by `T`. -/
theorem answered_stays_until_timer (fuel t : Nat) (s : St) (hq : Rq s) (hT : T s) (k g tm : Nat)
    (hm : (k, g) ∈ s.retention) (ht : (tm, k) ∈ s.evict) (hle : t ≤ tm) :
    (k, g) ∈ (advance fuel t true s).retention ∧ (tm, k) ∈ (advance fuel t true s).evict := by
  have := (advance_steps t true fuel s).induct
    (P := fun s' q' => RI s' q' ∧ T s' ∧ (k, g) ∈ s'.retention ∧ (tm, k) ∈ s'.evict) ?_ ⟨hq, hT, hm, ht⟩
  · exact this.2.2
  · intro l s q s' q' st hl ⟨hri, hT, hm, ht⟩
    have hr : s.ret > 0 := Nat.pos_of_ne_zero fun hz => by rw [hT.zeroNoTimer hz] at ht; cases ht
    -- the timer of `k` is the one at `tm`, and nothing due at `tm` or later fires
    have hne : ∀ when, l ≠ .evict when k := by
      intro when hk
      subst hk
      cases st with
      | evict hw =>
        have : when = tm := nodup_snd_unique hri.1.timerNodup hw ht
        rcases hl with h | h
        · omega
        · exact h.1 rfl
    have hk := Keeps_step st hr k hne
    exact ⟨RI_step st hri, T_step st hT, hk.1 g hm, hk.2.1 tm ht⟩

end AiutiVerif.Batcher
