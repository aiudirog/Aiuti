import AiutiVerif.Bridge.CloseModel
import AiutiVerif.Core.ListLemmas
/-!
# Early close of `to_async_iter` (C16)

`Props.lean` imports this file (check C16 builds both through it): the lemma about `expected` that both
use stands here.
-/
namespace AiutiVerif.Bridge

theorem take_prefix_expected (c : Cfg) (i : Nat) (hf : ∀ n, c.failAt = some n → i ≤ n) :
    c.src.take i <+: expected c := by
  unfold expected
  cases hfa : c.failAt with
  | none => exact List.take_prefix _ _
  | some n =>
    have := hf n hfa
    exact List.take_prefix_take_left this

namespace Close

def chanElems : List Item → List Nat
  | [] => []
  | .elem x :: r => x :: chanElems r
  | .done :: r => chanElems r

attribute [simp] chanElems

@[simp] theorem chanElems_append (a b : List Item) : chanElems (a ++ b) = chanElems a ++ chanElems b := by
  induction a with
  | nil => rfl
  | cons it r ih => cases it <;> simp [ih]

/-- What the producer has put is a prefix of the source, it has taken at most one element more than
it has put, and it never goes past a failure point; once it has left its loop nothing more is put. -/
structure Inv (c : Cfg) (s : St) : Prop where
  cons : s.consumed ++ chanElems s.chan = c.src.take s.nput
  nputLe : s.nput ≤ s.idx
  idxLe : s.idx ≤ s.nput + 1
  idxLen : s.idx ≤ c.src.length
  idxFail : ∀ n, c.failAt = some n → s.nput ≤ n
  ahead : s.idx = s.nput + 1 → s.stopped = true ∧ s.ppc ≠ .producing
  stoppedIff : s.stopped = true ↔ s.cpc = .closed

theorem inv_init (c : Cfg) : Inv c {} := by
  constructor <;> simp [chanElems]

theorem Inv.idx_eq {c : Cfg} {s : St} (h : Inv c s) (hp : s.ppc = .producing) : s.idx = s.nput := by
  have := h.nputLe; have := h.idxLe
  have : ¬ s.idx = s.nput + 1 := fun e => (h.ahead e).2 hp
  omega

theorem inv_step (c : Cfg) (s s' : St) (l : Label) (h : Inv c s) (hs : step c s l = some s') : Inv c s' := by
  have ⟨h1, h2, h3, h4, h5, h6, h7⟩ := h
  cases l <;> simp only [step] at hs
  case put =>
    simp only [Option.ite_none_right_eq_some, Option.some.injEq] at hs
    obtain ⟨⟨hp, hnf, hx, -⟩, rfl⟩ := hs
    have heq := h.idx_eq hp
    refine ⟨?_, ?_, ?_, lt_of_getElem? hx, fun n hn => ?_, ?_, h7⟩ <;> simp
    · rw [← List.append_assoc, h1, ← heq, take_succ_of_getElem? hx]
    · omega
    · omega
    · have : n ≠ s.idx := fun e => by simp [failsHere, hn, e] at hnf
      have := h5 n hn; omega
    · omega
  case drop x =>
    simp only [Option.ite_none_right_eq_some, Option.some.injEq] at hs
    obtain ⟨⟨hp, hnf, hx, hst⟩, rfl⟩ := hs
    have heq := h.idx_eq hp
    exact ⟨h1, by simp; omega, by simp; omega, lt_of_getElem? hx, h5, fun _ => ⟨hst, nofun⟩, h7⟩
  case srcEnd | srcFail | workerExit =>
    split at hs <;> cases hs
    exact ⟨h1, h2, h3, h4, h5, fun e => ⟨(h6 e).1, nofun⟩, h7⟩
  case putDone =>
    split at hs <;> cases hs
    exact ⟨by simpa using h1, h2, h3, h4, h5, fun e => ⟨(h6 e).1, nofun⟩, h7⟩
  case get x =>
    split at hs
    · rename_i y rest hc hch
      simp only [Option.ite_none_right_eq_some, Option.some.injEq] at hs
      obtain ⟨rfl, rfl⟩ := hs
      exact ⟨by simpa [hch] using h1, h2, h3, h4, h5, h6, h7⟩
    · cases hs
  case getDone =>
    split at hs <;> cases hs
    rename_i rest hc hch
    exact ⟨by simpa [hch] using h1, h2, h3, h4, h5, h6, by simpa [hc] using h7⟩
  case join r =>
    split at hs
    · rename_i f hc hp
      simp only [Option.ite_none_right_eq_some, Option.some.injEq] at hs
      obtain ⟨rfl, rfl⟩ := hs
      exact ⟨h1, h2, h3, h4, h5, h6, by simpa [hc] using h7⟩
    · cases hs
  case close =>
    split at hs <;> cases hs <;> exact ⟨h1, h2, h3, h4, h5, fun e => ⟨rfl, (h6 e).2⟩, by simp⟩

theorem inv_reachable (c : Cfg) (ls : List Label) : ∀ (s s' : St), Inv c s → accepts c s ls = some s' → Inv c s' :=
  accepts_induct (accepts := accepts c) (fun _ => rfl) (fun s l ls => by rw [accepts]; cases step c s l <;> rfl)
    (inv_step c) ls

theorem inv_of_accepts {c : Cfg} {ls : List Label} {s : St} (hs : accepts c {} ls = some s) : Inv c s :=
  inv_reachable c ls {} s (inv_init c) hs

/-- **Whatever the consumer received, whenever it left, is a prefix of what it was owed**, early close
included. -/
theorem C16_close_prefix (c : Cfg) (ls : List Label) (s : St) (h : accepts c {} ls = some s) :
    s.consumed <+: expected c := by
  have hi := inv_of_accepts h
  exact List.IsPrefix.trans ⟨_, hi.cons⟩ (take_prefix_expected c s.nput hi.idxFail)

/-- **After the consumer has left, a step puts at most one more element, once (`late`), and consumes nothing.**  The
helper thread tests the flag and puts in two steps, so the element whose test preceded the consumer's
leaving may still be put (`late` records it); the next test sees the flag. -/
theorem C16_at_most_one_put_after_close (c : Cfg) (s s' : St) (l : Label) (hi : Inv c s) (hst : s.stopped = true)
    (hs : step c s l = some s') :
    s'.stopped = true ∧ s'.consumed = s.consumed ∧ s'.cpc = .closed ∧
    ((s'.nput = s.nput ∧ s'.late = s.late) ∨ (s.late = false ∧ s'.late = true ∧ s'.nput = s.nput + 1)) := by
  have hcl : s.cpc = .closed := hi.stoppedIff.mp hst
  cases l <;> simp only [step] at hs
  case put x =>
    simp only [Option.ite_none_right_eq_some, Option.some.injEq] at hs
    obtain ⟨⟨-, -, -, hl⟩, rfl⟩ := hs
    have hlate : s.late = false := hl.resolve_left (by simp [hst])
    exact ⟨hst, rfl, hcl, .inr ⟨hlate, by simp [hst], rfl⟩⟩
  -- the consumer has left: none of its labels is enabled
  case get | getDone | join | close => simp [hcl] at hs
  -- the other steps of the helper thread touch none of these fields
  all_goals
    split at hs <;> cases hs
    exact ⟨hst, rfl, hcl, .inl ⟨rfl, rfl⟩⟩

/-- **Leaving never waits**: whenever the consumer is suspended `close` is enabled, whatever the helper
thread is doing (it may be blocked inside the source for as long as it likes). -/
theorem C16_close_never_blocks (c : Cfg) (s : St) (h : s.cpc = .getting ∨ s.cpc = .joining) :
    (step c s .close).isSome = true := by
  rcases h with h | h <;> simp [step, h]

def prank : PPc → Nat
  | .producing => 3
  | .finally_ _ => 2
  | .exiting _ => 1
  | .exited _ => 0

/-- steps the helper thread can still take (given that the source always answers) -/
def pmeasure (c : Cfg) (s : St) : Nat := (c.src.length - s.idx) + prank s.ppc

def isProducer : Label → Bool
  | .put _ | .drop _ | .srcEnd | .srcFail | .putDone | .workerExit => true
  | _ => false

theorem C16_helper_progress (c : Cfg) (s s' : St) (l : Label) (hp : isProducer l = true)
    (hs : step c s l = some s') : pmeasure c s' < pmeasure c s := by
  unfold pmeasure
  cases l <;> simp only [step] at hs
  case get | getDone | join | close => cases hp
  case put =>
    -- stays in the loop, but there was an element left to take
    simp only [Option.ite_none_right_eq_some, Option.some.injEq] at hs
    obtain ⟨⟨-, -, hx, -⟩, rfl⟩ := hs
    have hlt := lt_of_getElem? hx
    show c.src.length - (s.idx + 1) + prank s.ppc < c.src.length - s.idx + prank s.ppc
    omega
  -- every other step takes the helper thread to a later stage, and at most one element
  all_goals
    split at hs <;> cases hs
    simp [prank, *] <;> omega

/-- **No helper thread is left behind.**  Until the helper thread has exited one of its own steps is
enabled, whether or not the consumer is still there; each strictly decreases `pmeasure`, which starts at
`|source| + 3` at most (`C16_helper_progress`).  (That the source answers each
`next()` is the one assumption; a source that blocks for ever blocks the helper thread, not the loop:
`C16_close_never_blocks`.) -/
theorem C16_helper_never_stuck (c : Cfg) (s : St) (hne : ∀ f, s.ppc ≠ .exited f) :
    ∃ l, isProducer l = true ∧ (step c s l).isSome = true := by
  cases hp : s.ppc with
  | producing =>
    by_cases hf : failsHere c s.idx = true
    · exact ⟨.srcFail, rfl, by simp [step, hp, hf]⟩
    · rcases Nat.lt_or_ge s.idx c.src.length with hlt | hge
      · have hx := List.getElem?_eq_getElem hlt
        cases hst : s.stopped with
        | true => exact ⟨.drop c.src[s.idx], rfl, by simp [step, hp, hf, hx, hst]⟩
        | false => exact ⟨.put c.src[s.idx], rfl, by simp [step, hp, hf, hx, hst]⟩
      · exact ⟨.srcEnd, rfl, by simp [step, hp, hf, hge]⟩
  | finally_ => exact ⟨.putDone, rfl, by simp [step, hp]⟩
  | exiting => exact ⟨.workerExit, rfl, by simp [step, hp]⟩
  | exited f => exact absurd hp (hne f)

/-- source [5, 6, 7]; the consumer takes one element and leaves while the helper is fetching
the next: that one is dropped, the sentinel is put, the thread exits; 6 and 7 were never put -/
example : (accepts { src := [5, 6, 7], failAt := none } {}
    [.put 5, .get 5, .close, .drop 6, .putDone, .workerExit]).map (fun s => (s.consumed, s.nput, s.idx, s.ppc, s.cpc))
    = some ([5], 1, 2, .exited false, .closed) := by decide

end Close
end AiutiVerif.Bridge
