import AiutiVerif.Bridge.Close
/-!
# C16 — the iterator bridges preserve the sequence and propagate errors

For every source (any elements, failure at any position or none) and **every interleaving** of
the producer (helper thread) with the consumer.
-/
namespace AiutiVerif.Bridge

def chanElems : List Item → List Nat
  | [] => []
  | .elem x :: r => x :: chanElems r
  | .done :: r => chanElems r

attribute [simp] chanElems

@[simp] theorem chanElems_append (a b : List Item) : chanElems (a ++ b) = chanElems a ++ chanElems b := by
  induction a with
  | nil => rfl
  | cons it r ih => cases it <;> simp [ih]

def producerDone : PPc → Option Bool
  | .exiting f | .exited f => some f
  | _ => none

/-- The outcome flag the producer carries is right: it failed exactly at `idx`, or it ran out. -/
def flagOk (c : Cfg) (idx : Nat) (f : Bool) : Prop :=
  (f = true → c.failAt = some idx) ∧ (f = false → c.src.length ≤ idx ∧ c.failAt ≠ some idx)

theorem flagOk.expected_eq {c : Cfg} {idx : Nat} {f : Bool} (h : flagOk c idx f)
    (hfail : ∀ n, c.failAt = some n → idx ≤ n) : expected c = c.src.take idx := by
  unfold expected
  cases f with
  | true => rw [h.1 rfl]
  | false =>
    obtain ⟨hlen, -⟩ := h.2 rfl
    rw [List.take_of_length_le hlen]
    cases hfa : c.failAt with
    | none => rfl
    | some n => exact List.take_of_length_le (Nat.le_trans hlen (hfail n hfa))

/-- Accounting (`cons`, `idxLe`, `idxFail`), and the protocol by phase: until the sentinel is put the
consumer is reading (`noDone`); then a reading consumer has it behind the remaining elements (`withDone`);
one that has read it finds the channel empty (`after`) and finishes only after the worker, with its
outcome (`fin`), which is the right one (`flag`). -/
structure Inv (c : Cfg) (s : St) : Prop where
  cons : s.consumed ++ chanElems s.chan = c.src.take s.idx
  idxLe : s.idx ≤ c.src.length
  idxFail : ∀ n, c.failAt = some n → s.idx ≤ n
  noDone : (s.ppc = .producing ∨ ∃ f, s.ppc = .finally_ f) → .done ∉ s.chan ∧ s.cpc = .getting
  flag : ∀ f, (s.ppc = .finally_ f ∨ s.ppc = .exiting f ∨ s.ppc = .exited f) → flagOk c s.idx f
  withDone : ∀ f, (s.ppc = .exiting f ∨ s.ppc = .exited f) → s.cpc = .getting →
    ∃ es : List Nat, s.chan = es.map Item.elem ++ [.done]
  after : s.cpc ≠ .getting → s.chan = [] ∧ ∃ f, s.ppc = .exiting f ∨ s.ppc = .exited f
  fin : ∀ r, s.cpc = .finished r → s.ppc = .exited r

theorem inv_init (c : Cfg) : Inv c {} := by
  constructor <;> simp

theorem chanElems_map_elem (es : List Nat) : chanElems (es.map Item.elem) = es := by
  induction es with
  | nil => rfl
  | cons x r ih => simp [ih]

theorem eq_map_elem_of_not_mem_done : ∀ (l : List Item), .done ∉ l → ∃ es : List Nat, l = es.map Item.elem
  | [], _ => ⟨[], rfl⟩
  | .done :: _, h => absurd List.mem_cons_self h
  | .elem x :: r, h =>
    let ⟨es, hes⟩ := eq_map_elem_of_not_mem_done r (fun hm => h (List.mem_cons_of_mem _ hm))
    ⟨x :: es, by rw [hes]; rfl⟩

theorem inv_step (c : Cfg) (s s' : St) (l : Label) (h : Inv c s) (hs : step c s l = some s') : Inv c s' := by
  obtain ⟨h1, h2, h3, h4, h5, h6, h7, h8⟩ := h
  -- in each case `simp` with the program points known settles the clauses whose guard is then false
  cases l <;> simp only [step, failsHere, beq_iff_eq, Option.ite_none_right_eq_some, Option.some.injEq] at hs
  case put x =>
    obtain ⟨⟨hp, hnf, hx⟩, rfl⟩ := hs
    obtain ⟨hnd, hc⟩ := h4 (.inl hp)
    refine ⟨?_, lt_of_getElem? hx, fun n hn => ?_, ?_, ?_, ?_, ?_, ?_⟩ <;> simp [hp, hc, hnd]
    · rw [← List.append_assoc, h1, take_succ_of_getElem? hx]
    · have : n ≠ s.idx := fun e => hnf (e ▸ hn)
      have := h3 n hn; omega
  case srcEnd =>
    obtain ⟨⟨hp, hnf, hlen⟩, rfl⟩ := hs
    obtain ⟨hnd, hc⟩ := h4 (.inl hp)
    refine ⟨h1, h2, h3, ?_, ?_, ?_, ?_, ?_⟩ <;> simp [hc, hnd]
    exact ⟨nofun, fun _ => ⟨hlen, hnf⟩⟩
  case srcFail =>
    obtain ⟨⟨hp, hf'⟩, rfl⟩ := hs
    obtain ⟨hnd, hc⟩ := h4 (.inl hp)
    refine ⟨h1, h2, h3, ?_, ?_, ?_, ?_, ?_⟩ <;> simp [hc, hnd]
    exact ⟨fun _ => hf', nofun⟩
  case putDone =>
    split at hs <;> cases hs
    rename_i f hp
    obtain ⟨hnd, hc⟩ := h4 (.inr ⟨f, hp⟩)
    refine ⟨by simpa using h1, h2, h3, ?_, ?_, ?_, ?_, ?_⟩ <;> simp [hc]
    · exact h5 f (.inl hp)
    · exact eq_map_elem_of_not_mem_done _ hnd
  case workerExit =>
    split at hs <;> cases hs
    rename_i f hp
    refine ⟨h1, h2, h3, ?_, ?_, ?_, ?_, fun r hr => nomatch hp.symm.trans (h8 r hr)⟩ <;> simp
    · exact h5 f (.inr (.inl hp))
    · exact h6 f (.inl hp)
    · exact fun h => (h7 h).1
  case get x =>
    split at hs
    · rename_i y rest hc hch
      simp only [Option.ite_none_right_eq_some, Option.some.injEq] at hs
      obtain ⟨rfl, rfl⟩ := hs
      refine ⟨by simpa [hch] using h1, h2, h3, by simpa [hch] using h4, h5, fun f hf _ => ?_,
        fun h => absurd hc h, h8⟩
      -- the sentinel stays behind the element taken
      obtain ⟨es, hes⟩ := h6 f hf hc
      rw [hch] at hes
      cases es with
      | nil => simp at hes
      | cons e es' => exact ⟨es', (List.cons.inj hes).2⟩
    · cases hs
  case getDone =>
    split at hs <;> cases hs
    rename_i rest hc hch
    -- the sentinel is in the channel, so the producer is past its `finally`, and nothing follows it
    have hpd : ∃ f, s.ppc = .exiting f ∨ s.ppc = .exited f := by
      cases hp : s.ppc <;> simp [hp, hch] at h4 ⊢
    obtain ⟨f, hf⟩ := hpd
    obtain ⟨es, hes⟩ := h6 f hf hc
    rw [hch] at hes
    cases es with
    | cons => simp at hes
    | nil =>
      refine ⟨by simpa [hch] using h1, h2, h3, ?_, h5, nofun, fun _ => ⟨(List.cons.inj hes).2, f, hf⟩,
        nofun⟩
      rcases hf with hf | hf <;> simp [hf]
  case join raised =>
    split at hs
    · rename_i f hc hp
      simp only [Option.ite_none_right_eq_some, Option.some.injEq] at hs
      obtain ⟨rfl, rfl⟩ := hs
      refine ⟨h1, h2, h3, ?_, h5, ?_, fun _ => h7 (by simp [hc]), ?_⟩ <;> simp [hp]
    · cases hs

theorem inv_reachable (c : Cfg) (ls : List Label) : ∀ (s s' : St), Inv c s → accepts c s ls = some s' → Inv c s' :=
  accepts_induct (accepts := accepts c) (fun _ => rfl) (fun s l ls => by rw [accepts]; cases step c s l <;> rfl)
    (inv_step c) ls

theorem inv_of_accepts {c : Cfg} {ls : List Label} {s : St} (hs : accepts c {} ls = some s) : Inv c s :=
  inv_reachable c ls {} s (inv_init c) hs

/-- **Sequence.** What the consumer has received so far is a prefix of the source's elements before its
failure point: in order, each once, nothing else. -/
theorem C16_sequence (c : Cfg) (ls : List Label) (s : St) (hs : accepts c {} ls = some s) :
    s.consumed <+: expected c := by
  have hi := inv_of_accepts hs
  exact List.IsPrefix.trans ⟨_, hi.cons⟩ (take_prefix_expected c s.idx hi.idxFail)

/-- **Completion and error propagation.** When iteration has finished, the consumer received
exactly the elements before the failure point, and it finished by raising iff the source
failed at the position the producer has reached (`idx`; which exception it raises is not modelled: the harness compares identities). -/
theorem C16_complete (c : Cfg) (ls : List Label) (s : St) (hs : accepts c {} ls = some s)
    (r : Bool) (hf : s.cpc = .finished r) :
    s.consumed = expected c ∧ (r = true ↔ c.failAt = some s.idx) ∧ s.idx ≤ c.src.length := by
  have hi := inv_of_accepts hs
  have hfl := hi.flag r (.inr (.inr (hi.fin r hf)))
  have hc := hi.cons
  rw [(hi.after (by simp [hf])).1] at hc
  exact ⟨by simpa [hfl.expected_eq hi.idxFail] using hc,
    ⟨hfl.1, fun h => Bool.of_not_eq_false fun hr => (hfl.2 hr).2 h⟩, hi.idxLe⟩

/-- **The sentinel is always sent**, also when the source fails: once the producer is past its `finally`,
a consumer that is still reading has the sentinel in the channel behind what is left to read. -/
theorem C16_sentinel_always (c : Cfg) (ls : List Label) (s : St) (hs : accepts c {} ls = some s)
    (f : Bool) (hp : s.ppc = .exiting f ∨ s.ppc = .exited f) (hc : s.cpc = .getting) :
    ∃ es : List Nat, s.chan = es.map Item.elem ++ [.done] :=
  (inv_of_accepts hs).withDone f hp hc

/-- **No helper thread is left**: the consumer finishes only after the worker has exited. -/
theorem C16_no_thread_left (c : Cfg) (ls : List Label) (s : St) (hs : accepts c {} ls = some s)
    (r : Bool) (hf : s.cpc = .finished r) : s.ppc = .exited r :=
  (inv_of_accepts hs).fin r hf

/-- **Never stuck**: until iteration has finished some step is enabled. -/
theorem C16_never_stuck (c : Cfg) (ls : List Label) (s : St) (hs : accepts c {} ls = some s)
    (hnf : ∀ r, s.cpc ≠ .finished r) : ∃ l, (step c s l).isSome = true := by
  have hi := inv_of_accepts hs
  cases hp : s.ppc with
  | producing =>
    by_cases hfail : failsHere c s.idx = true
    · exact ⟨.srcFail, by simp [step, hp, hfail]⟩
    · rcases Nat.lt_or_ge s.idx c.src.length with hlt | hge
      · exact ⟨.put c.src[s.idx], by simp [step, hp, hfail, List.getElem?_eq_getElem hlt]⟩
      · exact ⟨.srcEnd, by simp [step, hp, hfail, hge]⟩
  | finally_ => exact ⟨.putDone, by simp [step, hp]⟩
  | exiting => exact ⟨.workerExit, by simp [step, hp]⟩
  | exited f =>
    cases hc : s.cpc with
    | getting =>
      obtain ⟨es, hes⟩ := hi.withDone f (Or.inr hp) hc
      cases es with
      | nil => exact ⟨.getDone, by simp [step, hc, hes]⟩
      | cons e => exact ⟨.get e, by simp [step, hc, hes]⟩
    | joining => exact ⟨.join f, by simp [step, hc, hp]⟩
    | finished r => exact absurd hc (hnf r)

-- the producer finishes before the first read; a failure after two elements
example :
    (accepts { src := [0, 7, 0], failAt := some 2 } {}
      [.put 0, .put 7, .srcFail, .putDone, .workerExit, .get 0, .get 7, .getDone, .join true]).map
        (fun s => (s.consumed, s.cpc)) = some ([0, 7], .finished true) := by decide

end AiutiVerif.Bridge
