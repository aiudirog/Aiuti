import AiutiVerif.Buffer.Quiet
import AiutiVerif.Buffer.Terminates
/-!
# A call takes everything that is pending   (C08 "delivered together in a single call")

For immediately available arguments and no forced flush (`QuietIn` programs): whenever the
background task is about to call the wrapped function (`pc = runfunc`), **every element submitted
so far is in the round's input set or has already been delivered** - nothing is left in the queue or
captured for a later call.  Together with `C08_quiet_period` this is the burst clause: the arguments
of a burst are delivered together, in the one call that starts once the burst has been quiet for `T`.

The invariant `B`: the queue is non-empty only in states from which the next thing the daemon does
with it is to take it into the round (`idle`, `iter`, a call in flight or just over, a captured
producer being loaded) or while the timed read has captured a producer.
-/
namespace AiutiVerif.Buffer

def B (s : St) : Prop :=
  s.queue ≠ [] →
    s.pc = Pc.idle ∨ s.pc.isRunning = true ∨ s.pc = Pc.endround ∨ s.pc = Pc.iter ∨ s.pc.isLoadcap = true ∨
    gstate s = some GState.got

theorem B_of_queue_nil {s : St} (h : s.queue = []) : B s := fun hq => absurd h hq

theorem cancelGetting_queue (s : St) (w : Waiter) : (cancelGetting s w).queue = s.queue :=
  cancelGetting_inv (P := fun x => x.queue = s.queue) (fun _ _ h hp => by cases hp <;> exact h) rfl

/-- `awaitget` to `decide`, where a non-empty queue is not allowed - but it was not allowed at `awaitget` either -/
theorem B_unpend {s : St} {g g' : Getting} (h : B s) (hg : s.getting = some g) (hst : g.state = GState.pending) :
    B { s with getting := some g', pc := if s.pc = Pc.awaitget then Pc.decide else s.pc } := by
  intro hq
  have hgs : gstate s ≠ some GState.got := by simp [gstate, hg, hst]
  have := h hq
  cases hpc : s.pc <;> simp_all [Pc.isRunning, Pc.isLoadcap]

theorem B_pass {w : Waiter} {s s' : St} (h : B s) (hp : Pass w s s') : B s' := by
  cases hp
  case cancel g _ hg hst => exact B_unpend h hg hst
  all_goals exact h

theorem B_step {s s' : St} (h : B s) (hz : ZStep s s') : B s' := by
  cases hz
  case iter => exact checkJoin_inv (fun _ _ _ _ => B_pass) (fun _ => B_of_queue_nil rfl) (fun _ => B_of_queue_nil rfl)
  case flush g hpc hg hst =>
    -- a call is coming: the queue is empty, for at `decide` it is non-empty only with a captured producer
    intro hq
    have := h hq
    rcases hst with hst | hst <;> simp_all [gstate, Pc.isRunning, Pc.isLoadcap]
  case await => intro hq; have := h hq; simp_all [gstate, Pc.isRunning, Pc.isLoadcap]
  all_goals intro _; simp [Pc.isRunning, Pc.isLoadcap]

theorem B_fire {s s' : St} (h : B s) (hf : Fire s s') : B s' := by
  cases hf
  case timeout g hg hst _ _ _ => exact B_unpend h hg hst
  case loaded => intro hq; have := h hq; simp_all [gstate, Pc.isRunning, Pc.isLoadcap]
  all_goals intro _; simp [Pc.isRunning, Pc.isLoadcap]

theorem B_stable : Stable B := ⟨fun _ _ => B_step, fun _ _ => B_fire, fun _ _ _ h _ => h⟩

variable {fc : Bool}

theorem B_put {p : Producer} {s s' : St} (hl : L fc s) (hq : Q s) (hi : InputOk s) (hp : Put p false s s') : B s' := by
  cases hp
  case captured => intro _; simp [gstate]
  case queued hg =>
    -- where can the daemon be, with no timed read pending (or idle)?  At `awaitget` it would be pending (`L`); at
    -- `decide` and while loading it has captured, for it has not fired (`InputOk`, `Q.loadFresh`) and nobody cancels
    intro _
    have h1 := hl.1.awaitPending
    have h2 := hl.1.getSome
    have h3 := hq.loadFresh
    have h4 := hq.noCancel
    obtain ⟨i1, -, -, i4⟩ := hi
    cases hpc : s.pc <;> cases hgt : s.getting <;> simp_all [gstate, Pc.isRunning, Pc.isLoadcap]
    all_goals (rename_i g; cases hst : g.state <;> simp_all)

theorem B_input {i : In} {s s' : St} (hl : L fc s) (hq : Q s) (hi : InputOk s) (h : B s) (hin : QuietIn i)
    (hs : Input i s s') : B s' := by
  cases hs
  case submit hp => exact B_put hl hq hi hp
  case pass => exact passJoin_inv (fun _ _ => B_pass) h
  case join => exact h
  all_goals cases hin

theorem all_foldl : ∀ (ins : List In) (fc : Bool) (s : St), K s → L fc s → Q s → InputOk s → B s → (∀ i ∈ ins, QuietIn i) →
    K (ins.foldl applyIn s) ∧ L (ins.foldl stepFc fc) (ins.foldl applyIn s) ∧ Q (ins.foldl applyIn s) ∧ B (ins.foldl applyIn s) := by
  intro ins
  induction ins with
  | nil => intro fc s hk hl hq _ hb _; exact ⟨hk, hl, hq, hb⟩
  | cons i r ih =>
    intro fc s hk hl hq hi hb hin
    have hi0 := hin i (by simp)
    have hs := applyIn_input (s := s) (QuietIn_noShutdown i hi0)
    have ⟨hk1, hl1⟩ := KL_arrive s i.time hk hl
    have hq1 := Q_stable.arrive s i.time hq
    have hi1 := arrive_InputOk s i.time hk hi
    have ⟨hq2, hi2⟩ := QI_input hk1 hq1 hi1 hi0 hs
    exact ih _ _ (K_input hk1 hs) (L_input hk1 hl1 hs) hq2 hi2 (B_input hl1 hq1 hi1 (B_stable.arrive s i.time hb) hi0 hs)
      (fun j hj => hin j (List.mem_cons_of_mem _ hj))

theorem B_fresh (s : St) (h : Fresh s) : B s := B_of_queue_nil h.2.1

theorem KQB_tickN : ∀ (n : Nat) (s : St), K s → Q s → B s → K (tickN n s) ∧ Q (tickN n s) ∧ B (tickN n s) :=
  fun n s hk hq hb => ⟨K_stable.tickN n s hk, Q_stable.tickN n s hq, B_stable.tickN n s hb⟩

/-- the heart of it: about to call, nothing is left outside the round -/
theorem runfunc_has_everything (s : St) (hk : K s) (hb : B s) (hpc : s.pc = Pc.runfunc) :
    s.queue = [] ∧ ∀ x ∈ s.submitted, x ∈ s.inputs ∨ x ∈ s.delivered := by
  obtain ⟨hg, hp, hcap, _⟩ := hk.roundEnd (by rw [hpc]; rfl)
  have hq : s.queue = [] := Classical.byContradiction fun hne => by
    have := hb hne
    have := (hk.quietPc (by rw [hpc]; rfl)).1
    simp_all [Pc.isRunning, Pc.isLoadcap]
  refine ⟨hq, fun x hx => ?_⟩
  have := hk.conserve x hx
  simpa [Held, hq, hg, hcap, hp, flat] using this

theorem runfunc_calls (s : St) (hk : K s) (hpc : s.pc = Pc.runfunc) (hne : s.inputs ≠ []) :
    ∃ s', tick s = some s' ∧ s'.outs = s.outs ++ [Out.start s.now (sortNat s.inputs)] ∧ s'.pc.isRunning = true := by
  simp [tick, zstep, hk.alive, hpc, hne, Pc.isRunning]

end AiutiVerif.Buffer
