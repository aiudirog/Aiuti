import AiutiVerif.Buffer.Model
/-!
# `K`, the run-level invariant of the buffer machine (C03 conservation, C07 barrier)

`K s` holds for **every** program of timed inputs without a shutdown (the shutdown clause is C07's known
finding F5), at every instant:

* *conservation* — every element a submitted producer yields is in exactly the places the
  code keeps it: still queued, among the loaders of the next iteration, captured by the timed
  read, being loaded, in the round's input set, or delivered by a successful call; and nothing
  else is ever there (`only`);
* *barrier* — a `wait()` returns only when everything submitted before it was called has been
  delivered by a successful call (`retLog`), because the queue's unfinished count is exactly
  "queued + captured-and-not-yet-loaded" and the flag is set only with an empty round.
-/
namespace AiutiVerif.Buffer

def flat (l : List Producer) : List Nat := (l.map pitems).flatten

def gstate (s : St) : Option GState := s.getting.map (·.state)

/-- what the timed read has captured (kept until the next timed read is created) -/
def capItems (s : St) : List Nat :=
  match s.getting with
  | some g => if g.state = GState.got then pitems g.captured else []
  | none => []

/-- captured, and `task_done()` for it has not been called yet -/
def capOpen (s : St) : Bool :=
  match s.getting with
  | some g => g.state == GState.got && s.pc != Pc.iter
  | none => false

def Pc.roundEnd : Pc → Bool
  | .runfunc | .running _ _ | .endround | .idle => true
  | _ => false

def Pc.isLoading : Pc → Bool
  | .loading _ | .loadcap _ => true
  | _ => false

def Pc.isLoadcap : Pc → Bool
  | .loadcap _ => true
  | _ => false

def Pc.isRunning : Pc → Bool
  | .running _ _ => true
  | _ => false

def stepOut (acc : List Nat × Option (List Nat)) : Out → List Nat × Option (List Nat)
  | .start _ a => (acc.1, some a)
  | .fin _ true => (acc.1 ++ acc.2.getD [], none)
  | .fin _ false => (acc.1, none)
  | .waitRet _ _ => acc

/-- What the output stream says has been delivered: the arguments of the calls that returned
successfully, and the arguments of the call in flight. -/
def deliveredOf (outs : List Out) : List Nat × Option (List Nat) := outs.foldl stepOut ([], none)

/-- Calls are serial: `some inflight` while no `start` has been seen with a call still in flight
and no `fin` without one. -/
def stepSerial (acc : Option Bool) : Out → Option Bool
  | .start _ _ => match acc with
    | some false => some true
    | _ => none
  | .fin _ _ => match acc with
    | some true => some false
    | _ => none
  | .waitRet _ _ => acc

def serial (outs : List Out) : Option Bool := outs.foldl stepSerial (some false)

/-- the `wait()` calls that returned, in order -/
def waitIds (outs : List Out) : List Nat :=
  outs.filterMap fun o => match o with
    | .waitRet id _ => some id
    | _ => none

/-- the places an element can be -/
def Held (s : St) (x : Nat) : Prop :=
  x ∈ flat s.queue ∨ x ∈ flat s.gens ∨ x ∈ capItems s ∨ x ∈ s.pendingItems ∨ x ∈ s.inputs ∨ x ∈ s.delivered

/-- … of which these belong to the current round (already taken from the queue) -/
def InRound (s : St) (x : Nat) : Prop :=
  x ∈ flat s.gens ∨ x ∈ s.pendingItems ∨ x ∈ s.inputs ∨ x ∈ s.delivered

structure K (s : St) : Prop where
  alive : s.daemonEnded = false
  conserve : ∀ x ∈ s.submitted, Held s x
  only : ∀ x, Held s x → x ∈ s.submitted
  gensIter : s.pc ≠ Pc.iter → s.gens = []
  pendPc : s.pc.isLoading = false → s.pendingItems = []
  capDone : s.pc = Pc.iter → ∀ x ∈ capItems s, x ∈ s.inputs
  capLoad : s.pc.isLoadcap = true → gstate s = some GState.got ∧ s.pendingItems = capItems s
  quietPc : s.pc.roundEnd = true → gstate s ≠ some GState.got ∧ gstate s ≠ some GState.pending
  iterNotPending : s.pc = Pc.iter → gstate s ≠ some GState.pending
  unfin : s.unfinished = s.queue.length + (if capOpen s then 1 else 0)
  evRound : s.event = true → (s.pc = Pc.idle ∨ s.pc = Pc.endround) ∧ s.inputs = []
  flagEv : s.flaggers ≠ [] → s.event = false
  flagOk : ∀ w ∈ s.flaggers, w.before ≤ s.submitted.length ∧ ∀ x ∈ s.submitted.take w.before, InRound s x
  joinOk : ∀ w ∈ s.joiners, w.before ≤ s.submitted.length
  retOk : ∀ r ∈ s.retLog, r.2 ≤ s.submitted.length ∧ ∀ x ∈ s.submitted.take r.2, x ∈ s.delivered
  -- the round's input set is empty between rounds
  idleInputs : (s.pc = Pc.idle ∨ s.pc = Pc.endround) → s.inputs = []
  -- the ghosts and the output stream tell the same story
  outsDeliv : (deliveredOf s.outs).1 = s.delivered
  outsCur : (deliveredOf s.outs).2 = (if s.pc.isRunning then some (sortNat s.inputs) else none)
  outsWaits : waitIds s.outs = s.retLog.map (·.1)
  -- calls of the wrapped function are serial and never empty
  serialOk : serial s.outs = some s.pc.isRunning
  startsOk : ∀ t a, Out.start t a ∈ s.outs → a ≠ []

theorem flat_nil : flat [] = [] := rfl
theorem flat_cons (p : Producer) (r : List Producer) : flat (p :: r) = pitems p ++ flat r := by
  simp [flat]
theorem flat_append (a b : List Producer) : flat (a ++ b) = flat a ++ flat b := by
  simp [flat]

theorem mem_addInputs (xs : List Nat) : ∀ (acc : List Nat) (x : Nat), x ∈ addInputs acc xs ↔ x ∈ acc ∨ x ∈ xs := by
  induction xs with
  | nil => intro acc x; simp [addInputs]
  | cons y r ih =>
    intro acc x
    show x ∈ addInputs (if acc.contains y then acc else acc ++ [y]) r ↔ _
    rw [ih]
    split <;> simp_all <;> grind

theorem foldl_waits {β} (f : β → Out → β) (hf : ∀ b id t, f b (.waitRet id t) = b) (ws : List Waiter) (t : Nat) (b : β)
    (outs : List Out) : (outs ++ ws.map fun w => Out.waitRet w.id t).foldl f b = outs.foldl f b := by
  rw [List.foldl_append]
  induction ws with
  | nil => rfl
  | cons w r ih => simpa [hf] using ih

theorem deliveredOf_snoc (outs : List Out) (o : Out) : deliveredOf (outs ++ [o]) = stepOut (deliveredOf outs) o := by
  simp [deliveredOf, List.foldl_append]

theorem deliveredOf_waits (ws : List Waiter) (t : Nat) (outs : List Out) :
    deliveredOf (outs ++ ws.map fun w => Out.waitRet w.id t) = deliveredOf outs :=
  foldl_waits _ (fun _ _ _ => rfl) ..

theorem serial_snoc (outs : List Out) (o : Out) : serial (outs ++ [o]) = stepSerial (serial outs) o := by
  simp [serial, List.foldl_append]

theorem serial_waits (ws : List Waiter) (t : Nat) (outs : List Out) :
    serial (outs ++ ws.map fun w => Out.waitRet w.id t) = serial outs :=
  foldl_waits _ (fun _ _ _ => rfl) ..

theorem waitIds_snoc_start (outs : List Out) (t : Nat) (a : List Nat) : waitIds (outs ++ [Out.start t a]) = waitIds outs := by
  simp [waitIds, List.filterMap_append]
theorem waitIds_snoc_fin (outs : List Out) (t : Nat) (b : Bool) : waitIds (outs ++ [Out.fin t b]) = waitIds outs := by
  simp [waitIds, List.filterMap_append]
theorem waitIds_waits (ws : List Waiter) (t : Nat) (outs : List Out) :
    waitIds (outs ++ ws.map fun w => Out.waitRet w.id t) = waitIds outs ++ ws.map (·.id) := by
  simp [waitIds, List.filterMap_append, List.filterMap_map, Function.comp_def]

theorem insertSorted_perm (x : Nat) : ∀ l, (insertSorted x l).Perm (x :: l)
  | [] => .refl _
  | y :: r => by
    unfold insertSorted
    split
    · exact .refl _
    · exact ((insertSorted_perm x r).cons y).trans (.swap x y r)

theorem sortNat_perm : ∀ l, (sortNat l).Perm l
  | [] => .refl _
  | x :: r => (insertSorted_perm x _).trans ((sortNat_perm r).cons x)

theorem mem_sortNat (x : Nat) (l : List Nat) : x ∈ sortNat l ↔ x ∈ l := (sortNat_perm l).mem_iff

theorem sortNat_ne_nil (l : List Nat) (h : l ≠ []) : sortNat l ≠ [] := fun hs => h (hs ▸ sortNat_perm l).nil_eq.symm

theorem length_pos_of_ne_nil {α} {l : List α} (h : l ≠ []) : 0 < l.length := List.length_pos_iff.mpr h

set_option hygiene false in
macro "destruct_st" s:ident : tactic => `(tactic|
  rcases $s:ident with ⟨T, outcomes, now, queue, unfinished, event, pc, gens, inputs, pendingItems, getting, ninv, joiners,
    flaggers, outs, submitted, delivered, subTimes, lastSub, retLog, tie, daemonEnded, shutdownPhase⟩)

theorem Held_iff (s : St) (x : Nat) : Held s x ↔ x ∈ flat s.queue ∨ x ∈ capItems s ∨ InRound s x := by
  unfold Held InRound
  grind

theorem capItems_eq_nil {s : St} (h : gstate s ≠ some .got) : capItems s = [] := by
  cases hg : s.getting <;> simp_all [capItems, gstate]

theorem capOpen_eq (s : St) : capOpen s = (gstate s == some .got && s.pc != .iter) := by
  unfold capOpen gstate
  cases s.getting <;> rfl

theorem prefix_grow {P : Nat → Prop} {l : List Nat} (m : List Nat) {n : Nat}
    (h : n ≤ l.length ∧ ∀ x ∈ l.take n, P x) : n ≤ (l ++ m).length ∧ ∀ x ∈ (l ++ m).take n, P x := by
  rw [List.take_append_of_le_length h.1, List.length_append]
  exact ⟨Nat.le_add_right_of_le h.1, h.2⟩

theorem starts_append {outs more : List Out} (h : ∀ t a, Out.start t a ∈ outs → a ≠ [])
    (hm : ∀ t a, Out.start t a ∈ more → a ≠ []) : ∀ t a, Out.start t a ∈ outs ++ more → a ≠ [] :=
  fun t a ha => (List.mem_append.mp ha).elim (h t a) (hm t a)

theorem K.inRound_of_joined {s : St} (h : K s) (hu : s.unfinished = 0) {x : Nat} (hx : Held s x) : InRound s x := by
  have hun := h.unfin
  rw [hu] at hun
  rcases (Held_iff s x).mp hx with hx | hx | hx
  · have hq : s.queue = [] := List.eq_nil_of_length_eq_zero (by omega)
    rw [hq] at hx
    cases hx
  · by_cases hpc : s.pc = .iter
    · exact Or.inr (Or.inr (Or.inl (h.capDone hpc x hx)))
    · rw [capItems_eq_nil fun hg => by simp [capOpen_eq, hg, hpc] at hun] at hx
      cases hx
  · exact hx

theorem K.delivered_of_idle {s : St} (h : K s) (hpc : s.pc = .idle ∨ s.pc = .endround) {x : Nat} (hx : InRound s x) :
    x ∈ s.delivered := by
  have hg := h.gensIter (by rcases hpc with hpc | hpc <;> simp [hpc])
  have hp := h.pendPc (by rcases hpc with hpc | hpc <;> simp [hpc, Pc.isLoading])
  unfold InRound at hx
  rw [hg, hp, h.idleInputs hpc] at hx
  simpa [flat] using hx

theorem K.roundEnd {s : St} (h : K s) (hpc : s.pc.roundEnd = true) :
    s.gens = [] ∧ s.pendingItems = [] ∧ capItems s = [] ∧ capOpen s = false ∧ gstate s ≠ some GState.pending := by
  have ⟨h1, h2⟩ := h.quietPc hpc
  exact ⟨h.gensIter (fun hi => by rw [hi] at hpc; cases hpc),
    h.pendPc (by cases hp : s.pc <;> simp_all [Pc.roundEnd, Pc.isLoading]), capItems_eq_nil h1, by simp [capOpen_eq, h1], h2⟩

theorem K.event_false {s : St} (h : K s) (hpc : s.pc ≠ .idle ∧ s.pc ≠ .endround) : s.event = false :=
  Bool.eq_false_iff.mpr fun he => (h.evRound he).1.elim hpc.1 hpc.2

theorem K.no_call {s : St} (h : K s) (hr : s.pc.isRunning = false) :
    (deliveredOf s.outs).2 = none ∧ serial s.outs = some false := by
  have h1 := h.outsCur
  have h2 := h.serialOk
  rw [hr] at h1 h2
  exact ⟨h1, h2⟩

/-- the clauses `conserve`, `only`, `flagOk` of a state in which elements have only changed place, none leaving the round -/
theorem K.move {s s' : St} (h : K s) (hs : s'.submitted = s.submitted) (hf : s'.flaggers = s.flaggers)
    (mv : ∀ x, (Held s' x ↔ Held s x) ∧ (InRound s x → InRound s' x)) :
    (∀ x ∈ s'.submitted, Held s' x) ∧ (∀ x, Held s' x → x ∈ s'.submitted) ∧
    ∀ w ∈ s'.flaggers, w.before ≤ s'.submitted.length ∧ ∀ x ∈ s'.submitted.take w.before, InRound s' x := by
  rw [hs, hf]
  exact ⟨fun x hx => (mv x).1.2 (h.conserve x hx), fun x hx => h.only x ((mv x).1.1 hx),
    fun w hw => (h.flagOk w hw).imp_right fun H x hx => (mv x).2 (H x hx)⟩

end AiutiVerif.Buffer
