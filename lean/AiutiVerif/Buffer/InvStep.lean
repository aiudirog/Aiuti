import AiutiVerif.Buffer.Invariant
/-!
# `K` is kept by every move and every input, hence holds after every program of inputs without a shutdown -/
namespace AiutiVerif.Buffer

theorem K_step {s s' : St} (h : K s) (hz : ZStep s s') : K s' := by
  cases hz
  case take p rest hpc hq =>
    obtain ⟨hg, -, hc, -, hpend⟩ := h.roundEnd (hpc ▸ rfl)
    have mv := h.move (s' := { s with queue := rest, gens := [p] }) rfl rfl fun x => by
      simp only [Held, InRound, capItems, hq, hg, flat_cons, flat_nil, List.mem_append]
      grind
    exact { h with
      conserve := mv.1
      only := mv.2.1
      gensIter := fun hne => absurd rfl hne
      pendPc := fun _ => h.pendPc (hpc ▸ rfl)
      capDone := fun _ x (hx : x ∈ capItems s) => by rw [hc] at hx; cases hx
      capLoad := nofun
      quietPc := nofun
      iterNotPending := fun _ => hpend
      unfin := by simp [capOpen_eq, h.unfin, (h.quietPc (hpc ▸ rfl)).1, hq]
      evRound := nofun
      flagEv := fun _ => rfl
      flagOk := mv.2.2
      idleInputs := nofun
      outsCur := (h.no_call (hpc ▸ rfl)).1
      serialOk := (h.no_call (hpc ▸ rfl)).2 }
  case iter hpc =>
    have hp := h.pendPc (hpc ▸ rfl)
    -- what was queued or left for this iteration is now being loaded; what was captured has been loaded before
    have mv := h.move (s' := { s with queue := [], gens := [], getting := some ⟨s.now + s.T, .pending, []⟩,
                                      pendingItems := flat (s.gens ++ s.queue) }) rfl rfl fun x => by
      have := h.capDone hpc x
      simp only [Held, InRound, capItems, hp, flat_append, flat_nil, List.mem_append] at this ⊢
      grind
    exact checkJoin_K _ { h with
      conserve := mv.1
      only := mv.2.1
      gensIter := fun _ => rfl
      pendPc := nofun
      capDone := nofun
      capLoad := nofun
      quietPc := nofun
      iterNotPending := nofun
      unfin := by simp [iterCore, capOpen_eq, gstate, hpc, h.unfin]
      evRound := by simp [iterCore, h.event_false (by simp [hpc])]
      flagOk := mv.2.2
      idleInputs := nofun
      outsCur := (h.no_call (hpc ▸ rfl)).1
      serialOk := (h.no_call (hpc ▸ rfl)).2 }
  case got g hpc hg hst =>
    have hp := h.pendPc (hpc ▸ rfl)
    have mv := h.move (s' := { s with pendingItems := pitems g.captured }) rfl rfl fun x => by
      simp [Held, InRound, capItems, hg, hst, hp]
      grind
    exact { h with
      conserve := mv.1
      only := mv.2.1
      gensIter := fun _ => h.gensIter (hpc ▸ nofun)
      pendPc := nofun
      capDone := nofun
      capLoad := fun _ => ⟨by simp [gstate, hg, hst], by simp [capItems, hg, hst]⟩
      quietPc := nofun
      iterNotPending := nofun
      unfin := by simpa [capOpen_eq, gstate, hpc] using h.unfin
      evRound := by simp [h.event_false (by simp [hpc])]
      flagOk := mv.2.2
      idleInputs := nofun
      outsCur := (h.no_call (hpc ▸ rfl)).1
      serialOk := (h.no_call (hpc ▸ rfl)).2 }
  case flush g hpc hg hst =>
    exact h.goto .runfunc (hpc ▸ rfl) rfl (fun _ => by rcases hst with hst | hst <;> simp [gstate, hg, hst]) nofun
      (by simp [h.event_false (by simp [hpc])])
  case await hpc _ _ => exact h.goto .awaitget (hpc ▸ rfl) rfl nofun nofun (by simp [h.event_false (by simp [hpc])])
  case done hpc he =>
    exact setEvent_K { s with pc := .endround }
      (h.goto .endround (hpc ▸ rfl) rfl (fun _ => h.quietPc (hpc ▸ rfl)) (fun _ => he)
        (by simp [h.event_false (by simp [hpc])]))
      (Or.inr rfl)
  case call hpc hne =>
    exact { h with
      gensIter := fun _ => h.gensIter (hpc ▸ nofun)
      pendPc := fun _ => h.pendPc (hpc ▸ rfl)
      capDone := nofun
      capLoad := nofun
      quietPc := fun _ => h.quietPc (hpc ▸ rfl)
      iterNotPending := nofun
      unfin := by simpa [capOpen_eq, gstate, hpc] using h.unfin
      evRound := by simp [h.event_false (by simp [hpc])]
      idleInputs := nofun
      outsDeliv := (congrArg Prod.fst (deliveredOf_snoc ..)).trans h.outsDeliv
      outsCur := congrArg Prod.snd (deliveredOf_snoc ..)
      outsWaits := (waitIds_snoc_start ..).trans h.outsWaits
      serialOk := (serial_snoc ..).trans (by rw [h.serialOk, hpc]; rfl)
      startsOk := starts_append h.startsOk fun t a ha => by
        cases List.mem_singleton.mp ha
        exact sortNat_ne_nil _ hne }
  case sleep hpc =>
    exact h.goto .idle (hpc ▸ rfl) rfl (fun _ => h.quietPc (hpc ▸ rfl)) (fun _ => h.idleInputs (Or.inr hpc))
      fun _ => Or.inl rfl

theorem K_fire {s s' : St} (h : K s) (hf : Fire s s') : K s' := by
  cases hf
  case timeout g hg hs _ _ _ => exact h.resolve hg hs .timedout (by simp)
  case loaded u hpc =>
    have mv := h.move (s' := { s with inputs := addInputs s.inputs s.pendingItems, pendingItems := [] }) rfl rfl fun x => by
      simp only [Held, InRound, capItems, mem_addInputs]
      grind
    exact { h with
      conserve := mv.1
      only := mv.2.1
      gensIter := fun _ => h.gensIter (hpc ▸ nofun)
      pendPc := fun _ => rfl
      capDone := nofun
      capLoad := nofun
      quietPc := nofun
      iterNotPending := nofun
      unfin := by simpa [capOpen_eq, gstate, hpc] using h.unfin
      evRound := by simp [h.event_false (by simp [hpc])]
      flagOk := mv.2.2
      idleInputs := nofun
      outsCur := (h.no_call (hpc ▸ rfl)).1
      serialOk := (h.no_call (hpc ▸ rfl)).2 }
  case capLoaded u hpc =>
    obtain ⟨hgot, hp⟩ := h.capLoad (hpc ▸ rfl)
    have mv := h.move (s' := { s with inputs := addInputs s.inputs s.pendingItems, pendingItems := [], gens := [] })
      rfl rfl fun x => by
        simp only [Held, InRound, capItems, mem_addInputs, h.gensIter (hpc ▸ nofun)]
        grind
    exact { h with
      conserve := mv.1
      only := mv.2.1
      gensIter := fun hne => absurd rfl hne
      pendPc := fun _ => rfl
      capDone := fun _ x (hx : x ∈ capItems s) => (mem_addInputs ..).2 (Or.inr (hp ▸ hx))
      capLoad := nofun
      quietPc := nofun
      iterNotPending := fun _ => (by simp [hgot] : gstate s ≠ some .pending)
      unfin := by simp [capOpen_eq, h.unfin, hgot, hpc]
      evRound := by simp [h.event_false (by simp [hpc])]
      flagOk := mv.2.2
      idleInputs := nofun
      outsCur := (h.no_call (hpc ▸ rfl)).1
      serialOk := (h.no_call (hpc ▸ rfl)).2 }
  case finOk u hpc =>
    obtain ⟨hg, hp, -, -, -⟩ := h.roundEnd (hpc ▸ rfl)
    have hcur := h.outsCur
    have hser := h.serialOk
    rw [hpc] at hcur hser
    have mv := h.move (s' := { s with delivered := s.delivered ++ sortNat s.inputs, inputs := [] }) rfl rfl fun x => by
      simp only [Held, InRound, capItems, List.mem_append, mem_sortNat]
      grind
    refine setEvent_K { s with outs := s.outs ++ [Out.fin s.now true], delivered := s.delivered ++ sortNat s.inputs,
                               inputs := [], pc := .endround } ?_ (Or.inr rfl)
    exact { h with
      conserve := mv.1
      only := mv.2.1
      gensIter := fun _ => hg
      pendPc := fun _ => hp
      capDone := nofun
      capLoad := nofun
      quietPc := fun _ => h.quietPc (hpc ▸ rfl)
      iterNotPending := nofun
      unfin := by simpa [capOpen_eq, gstate, hpc] using h.unfin
      evRound := by simp [h.event_false (by simp [hpc])]
      flagOk := mv.2.2
      retOk := fun r hr => (h.retOk r hr).imp_right fun H x hx => List.mem_append_left _ (H x hx)
      idleInputs := fun _ => rfl
      outsDeliv := (congrArg Prod.fst (deliveredOf_snoc ..)).trans (by
        show (deliveredOf s.outs).1 ++ (deliveredOf s.outs).2.getD [] = _
        rw [hcur, h.outsDeliv]; rfl)
      outsCur := congrArg Prod.snd (deliveredOf_snoc ..)
      outsWaits := (waitIds_snoc_fin ..).trans h.outsWaits
      serialOk := (serial_snoc ..).trans (by rw [hser]; rfl)
      startsOk := starts_append h.startsOk (by simp) }
  case finFail u hpc =>
    obtain ⟨hg, hp, hc, -, hpend⟩ := h.roundEnd (hpc ▸ rfl)
    have hser := h.serialOk
    rw [hpc] at hser
    have mv := h.move (s' := { s with gens := [] }) rfl rfl fun x => by simp only [Held, InRound, capItems, hg]; simp
    exact { h with
      conserve := mv.1
      only := mv.2.1
      gensIter := fun hne => absurd rfl hne
      pendPc := fun _ => hp
      capDone := fun _ x (hx : x ∈ capItems s) => by rw [hc] at hx; cases hx
      capLoad := nofun
      quietPc := nofun
      iterNotPending := fun _ => hpend
      unfin := by simp [capOpen_eq, h.unfin, (h.quietPc (hpc ▸ rfl)).1]
      evRound := by simp [h.event_false (by simp [hpc])]
      flagOk := mv.2.2
      idleInputs := nofun
      outsDeliv := (congrArg Prod.fst (deliveredOf_snoc ..)).trans h.outsDeliv
      outsCur := congrArg Prod.snd (deliveredOf_snoc ..)
      outsWaits := (waitIds_snoc_fin ..).trans h.outsWaits
      serialOk := (serial_snoc ..).trans (by rw [hser]; rfl)
      startsOk := starts_append h.startsOk (by simp) }

theorem K_now (s : St) (n : Nat) (b : Bool) (h : K s) : K { s with now := n, tie := b } := { h with }

theorem K_stable : Stable K :=
  ⟨fun _ _ => K_step, fun _ _ => K_fire, fun s t b h _ => K_now s t b h⟩

theorem K_put {p : Producer} {ev : Bool} {s s' : St} (h : K s) (he : ev = true → s.event = true) (hp : Put p ev s s') :
    K s' := by
  have hfe : s.flaggers ≠ [] → ev = false := fun hf => Bool.eq_false_iff.mpr fun h' =>
    Bool.false_ne_true ((h.flagEv hf).symm.trans (he h'))
  have hfo := fun w hw => prefix_grow (pitems p) (h.flagOk w hw)
  have hjo := fun w hw => (prefix_grow (P := fun _ => True) (pitems p) ⟨h.joinOk w hw, fun _ _ => trivial⟩).1
  have hro := fun r hr => prefix_grow (pitems p) (h.retOk r hr)
  cases hp
  case queued =>
    have held : ∀ x, Held { s with queue := s.queue ++ [p] } x ↔ Held s x ∨ x ∈ pitems p := fun x => by
      simp only [Held, capItems, flat_append, flat_cons, flat_nil, List.mem_append, List.append_nil]
      grind
    exact { h with
      conserve := fun x hx => (held x).2 ((List.mem_append.mp hx).imp_left (h.conserve x))
      only := fun x hx => List.mem_append.mpr (((held x).1 hx).imp_left (h.only x))
      unfin := by simp [capOpen_eq, gstate, h.unfin]; omega
      evRound := fun he' => h.evRound (he he')
      flagEv := hfe
      flagOk := hfo
      joinOk := hjo
      retOk := hro }
  case captured g _ hg hs =>
    -- the timed read is pending, so the daemon is not past it: it is not between rounds
    have hgs : gstate s = some .pending := by simp [gstate, hg, hs]
    have hpc : s.pc ≠ .iter := fun hpc => h.iterNotPending hpc hgs
    have hre : s.pc.roundEnd ≠ true := fun hr => (h.quietPc hr).2 hgs
    have hev : ev = false := Bool.eq_false_iff.mpr fun he' => by
      rcases (h.evRound (he he')).1 with hi | hi <;> simp [hi, Pc.roundEnd] at hre
    have held : ∀ x, Held { s with getting := some { g with state := .got, captured := p } } x ↔
        Held s x ∨ x ∈ pitems p := fun x => by
      simp [Held, capItems, hg, hs]
      grind
    have : K { s with event := ev, unfinished := s.unfinished + 1, submitted := s.submitted ++ pitems p,
                      subTimes := s.subTimes ++ [s.now], lastSub := s.now,
                      getting := some { g with state := .got, captured := p } } :=
      { h with
        conserve := fun x hx => (held x).2 ((List.mem_append.mp hx).imp_left (h.conserve x))
        only := fun x hx => List.mem_append.mpr (((held x).1 hx).imp_left (h.only x))
        capDone := fun hi => absurd hi hpc
        capLoad := fun hl => by simp [(h.capLoad hl).1] at hgs
        quietPc := fun hr => absurd hr hre
        iterNotPending := fun _ => by simp [gstate]
        unfin := by simp [capOpen_eq, gstate, hg, hs, hpc, h.unfin]
        evRound := by simp [hev]
        flagEv := hfe
        flagOk := hfo
        joinOk := hjo
        retOk := hro }
    split
    · rename_i ha
      exact this.goto .decide (by simp [ha, Pc.calm]) rfl nofun nofun (by simp [hev])
    · exact this

theorem K_input {i : In} {s s' : St} (h : K s) (hi : Input i s s') : K s' := by
  cases hi
  case submit hp => exact K_put (ev := false) h nofun hp
  case fput hp => exact K_put h id hp
  case pass hu => exact passJoin_K s _ h hu (Nat.le_refl _)
  case join => exact { h with joinOk := forall_mem_snoc h.joinOk (Nat.le_refl _) }
  case fclear => exact { h with evRound := nofun, flagEv := fun _ => rfl }

theorem zstep_K (s s' : St) (h : K s) (hz : zstep s = some s') : K s' := K_step h (zstep_step hz)

theorem settle_K : ∀ (fuel : Nat) (s : St), K s → K (settle fuel s) := K_stable.settle

theorem fireTimed_K (s : St) (when kind : Nat) (h : K s) (hn : nextTimed s = some (when, kind)) :
    K (fireTimed s when kind) :=
  K_stable.fireTimed hn h

theorem advance_K : ∀ (fuel t : Nat) (strict : Bool) (s : St), K s → K (advance fuel t strict s) := K_stable.advance

theorem arrive_K (s : St) (t : Nat) (h : K s) : K (arrive s t) := K_stable.arrive s t h

theorem applyIn_K (s : St) (i : In) (h : K s) (hi : i.isShutdown = false) : K (applyIn s i) :=
  K_stable.applyIn (fun _ _ => K_input) hi h

theorem foldl_applyIn_K : ∀ (ins : List In) (s : St), K s → (∀ i ∈ ins, i.isShutdown = false) →
    K (ins.foldl applyIn s) :=
  fun ins _ h hi => (K_stable.run (fun _ _ _ _ h => K_input h) (fun _ h => h) ins hi h).1

theorem runProgram_K (s : St) (ins : List In) (h : K s) (hi : ∀ i ∈ ins, i.isShutdown = false) :
    K (runProgram s ins) :=
  (K_stable.run (fun _ _ _ _ h => K_input h) (fun _ h => h) ins hi h).2

def Fresh (s : St) : Prop :=
  s.daemonEnded = false ∧ s.queue = [] ∧ s.unfinished = 0 ∧ s.event = true ∧ s.pc = Pc.idle ∧ s.gens = [] ∧
  s.inputs = [] ∧ s.pendingItems = [] ∧ s.getting = none ∧ s.joiners = [] ∧ s.flaggers = [] ∧ s.submitted = [] ∧
  s.delivered = [] ∧ s.retLog = [] ∧ s.outs = []

theorem K_fresh (s : St) (h : Fresh s) : K s := by
  unfold Fresh at h
  constructor <;> simp [h, Held, InRound, capItems, capOpen, gstate, Pc.roundEnd, Pc.isLoading, Pc.isLoadcap, Pc.isRunning,
    flat, deliveredOf, waitIds, serial]

end AiutiVerif.Buffer
