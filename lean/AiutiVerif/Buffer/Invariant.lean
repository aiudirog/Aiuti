import AiutiVerif.Buffer.Inv0
import AiutiVerif.Buffer.Machine
import AiutiVerif.Core.ListLemmas
/-!
# `K` is kept: the updates several moves share, and `wait()`

Every update of the machine is a structure update `{ s with … }`, and `K` is preserved by `{ h with … }`: the clauses
that are not listed read only fields the update leaves alone, and are taken from `h` as they are. -/
namespace AiutiVerif.Buffer

/-- program points at which the daemon holds no loaders, loads nothing and calls nothing -/
def Pc.calm : Pc → Bool
  | .idle | .decide | .awaitget | .runfunc | .endround => true
  | _ => false

theorem Pc.calm_spec {pc : Pc} (h : pc.calm = true) :
    pc ≠ .iter ∧ pc.isLoading = false ∧ pc.isLoadcap = false ∧ pc.isRunning = false := by
  cases pc <;> simp_all [Pc.calm, Pc.isLoading, Pc.isLoadcap, Pc.isRunning]

/-- the daemon goes from one calm point to another; `hq`, `hi`, `he` are what `K` asks at the new one: a round ends only
with the timed read settled, the input set is empty between rounds, and only there is the flag set -/
theorem K.goto {s : St} (h : K s) (pc' : Pc) (hc : s.pc.calm = true) (hc' : pc'.calm = true)
    (hq : pc'.roundEnd = true → gstate s ≠ some .got ∧ gstate s ≠ some .pending)
    (hi : pc' = .idle ∨ pc' = .endround → s.inputs = [])
    (he : s.event = true → pc' = .idle ∨ pc' = .endround) : K { s with pc := pc' } := by
  obtain ⟨a1, a2, -, a4⟩ := Pc.calm_spec hc
  obtain ⟨b1, -, b3, b4⟩ := Pc.calm_spec hc'
  exact { h with
    gensIter := fun _ => h.gensIter a1
    pendPc := fun _ => h.pendPc a2
    capDone := fun hi => absurd hi b1
    capLoad := fun hl => by rw [b3] at hl; cases hl
    quietPc := hq
    iterNotPending := fun hi => absurd hi b1
    unfin := by simpa [capOpen_eq, gstate, a1, b1] using h.unfin
    evRound := fun hev => ⟨he hev, hi (he hev)⟩
    idleInputs := hi
    outsCur := by simpa [a4, b4] using h.outsCur
    serialOk := by simpa [a4, b4] using h.serialOk }

/-- the timed read ends by time-out or cancellation; a daemon awaiting it wakes up -/
theorem K.resolve {s : St} (h : K s) {g : Getting} (hg : s.getting = some g) (hs : g.state = .pending) (st : GState)
    (hst : st ≠ .got ∧ st ≠ .pending) :
    K { s with getting := some { g with state := st }, pc := if s.pc = Pc.awaitget then Pc.decide else s.pc } := by
  have hgs : gstate s = some .pending := by simp [gstate, hg, hs]
  have hc : capItems s = [] := capItems_eq_nil (by simp [hgs])
  have hc' : capItems { s with getting := some { g with state := st } } = [] := capItems_eq_nil (by simp [gstate, hst.1])
  have hk : K { s with getting := some { g with state := st } } :=
    { h with
      conserve := fun x hx => by simpa only [Held, hc, hc'] using h.conserve x hx
      only := fun x hx => h.only x (by simpa only [Held, hc, hc'] using hx)
      capDone := fun _ x hx => by rw [hc'] at hx; cases hx
      capLoad := fun hl => by simp [(h.capLoad hl).1] at hgs
      quietPc := fun _ => by simpa [gstate] using hst
      iterNotPending := fun _ => by simpa [gstate] using hst.2
      unfin := by simpa [capOpen_eq, gstate, hg, hs, hst.1] using h.unfin }
  split
  · rename_i hpc
    exact hk.goto .decide (by simp [hpc, Pc.calm]) rfl nofun nofun (by simp [h.event_false (by simp [hpc])])
  · exact hk

/-- `wait()` calls return, each with everything submitted before it delivered (`hw`) -/
theorem K.returns {s : St} (h : K s) (ws : List Waiter)
    (hw : ∀ w ∈ ws, w.before ≤ s.submitted.length ∧ ∀ x ∈ s.submitted.take w.before, x ∈ s.delivered) :
    K { s with outs := s.outs ++ ws.map fun w => Out.waitRet w.id s.now,
               retLog := s.retLog ++ ws.map fun w => (w.id, w.before) } :=
  { h with
    retOk := List.forall_mem_append.mpr ⟨h.retOk, List.forall_mem_map.mpr hw⟩
    outsDeliv := (congrArg Prod.fst (deliveredOf_waits ..)).trans h.outsDeliv
    outsCur := (congrArg Prod.snd (deliveredOf_waits ..)).trans h.outsCur
    outsWaits := by
      rw [waitIds_waits, List.map_append, h.outsWaits, List.map_map]; rfl
    serialOk := (serial_waits ..).trans h.serialOk
    startsOk := starts_append h.startsOk (by simp) }

theorem setEvent_K (s : St) (h : K s) (hpc : s.pc = .idle ∨ s.pc = .endround) : K (setEvent s) :=
  { h.returns s.flaggers fun w hw => (h.flagOk w hw).imp_right fun H x hx => h.delivered_of_idle hpc (H x hx) with
    evRound := fun _ => ⟨hpc, h.idleInputs hpc⟩
    flagEv := fun hf => absurd rfl hf
    flagOk := nofun }

theorem K_pass {w : Waiter} {s s' : St} (h : K s) (hu : s.unfinished = 0) (hb : w.before ≤ s.submitted.length)
    (hp : Pass w s s') : K s' := by
  have hr : ∀ x ∈ s.submitted.take w.before, InRound s x := fun x hx =>
    h.inRound_of_joined hu (h.conserve x (List.mem_of_mem_take hx))
  cases hp with
  | cancel _ hg hs => exact h.resolve hg hs _ (by simp)
  | ret he =>
    exact h.returns [w] (List.forall_mem_singleton.mpr
      ⟨hb, fun x hx => h.delivered_of_idle (h.evRound he).1 (hr x hx)⟩)
  | block he => exact { h with flagEv := fun _ => he, flagOk := forall_mem_snoc h.flagOk ⟨hb, hr⟩ }

/-- the invariant for `passJoin_inv` / `checkJoin_inv`: no `Pass` touches the count or `submitted` -/
theorem K_passes {s : St} {w : Waiter} (hb : w.before ≤ s.submitted.length) (x x' : St)
    (h : K x ∧ x.unfinished = 0 ∧ x.submitted = s.submitted) (hp : Pass w x x') :
    K x' ∧ x'.unfinished = 0 ∧ x'.submitted = s.submitted :=
  ⟨K_pass h.1 h.2.1 (h.2.2 ▸ hb) hp, by cases hp <;> exact h.2⟩

theorem passJoin_K (s : St) (w : Waiter) (h : K s) (hu : s.unfinished = 0) (hb : w.before ≤ s.submitted.length) :
    K (passJoin s w) :=
  (passJoin_inv (K_passes hb) ⟨h, hu, rfl⟩).1

theorem checkJoin_K (s : St) (h : K s) : K (checkJoin s) := by
  by_cases hu : s.unfinished = 0
  · exact (checkJoin_inv (fun w hw => K_passes (h.joinOk w hw)) (fun _ => ⟨{ h with joinOk := nofun }, hu, rfl⟩)
      (absurd hu)).1
  · unfold checkJoin
    rw [if_neg hu]
    exact h

theorem cancelGetting_frame (s : St) (w : Waiter) :
    (cancelGetting s w).unfinished = s.unfinished ∧ (cancelGetting s w).submitted = s.submitted ∧
    (cancelGetting s w).joiners = s.joiners ∧ (cancelGetting s w).event = s.event :=
  cancelGetting_inv (P := fun x => x.unfinished = s.unfinished ∧ x.submitted = s.submitted ∧ x.joiners = s.joiners ∧
    x.event = s.event) (fun _ _ h hp => by cases hp <;> exact h) ⟨rfl, rfl, rfl, rfl⟩

theorem passJoin_frame (s : St) (w : Waiter) :
    (passJoin s w).unfinished = s.unfinished ∧ (passJoin s w).submitted = s.submitted ∧
    (passJoin s w).joiners = s.joiners :=
  passJoin_inv (P := fun x => x.unfinished = s.unfinished ∧ x.submitted = s.submitted ∧ x.joiners = s.joiners)
    (fun _ _ h hp => by cases hp <;> exact h) ⟨rfl, rfl, rfl⟩

end AiutiVerif.Buffer
