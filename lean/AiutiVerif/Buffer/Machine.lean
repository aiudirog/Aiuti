import AiutiVerif.Buffer.Model
/-!
# The moves of the buffer machine

Every function of `Model.lean` is made of a few kinds of *moves*: what a `wait()` whose join has passed
does (`Pass`), a zero-time step of the background task (`ZStep`), a timed event (`Fire`), the clock going
forward, an input (`Input`, `Put`).  The constructors are the cases of the model's functions, each with
what is known when it happens.  An invariant is proved for the moves (`cases h`: one goal per record
update) and then holds along every run (`checkJoin_inv`, `Stable`); one that needs another is the second
half of a conjunction (`Stable.and`); a preorder between states (`Sub` of `Waits.lean`) is an invariant in its second
argument.
-/
namespace AiutiVerif.Buffer

/-- the updates `cancelGetting` and `passJoin` are made of -/
inductive Pass (w : Waiter) : St → St → Prop
  | cancel {s : St} {g : Getting} : w.cancel = true → s.getting = some g → g.state = GState.pending →
      Pass w s { s with getting := some { g with state := .cancelled },
                        pc := if s.pc = Pc.awaitget then Pc.decide else s.pc }
  | ret {s : St} : s.event = true →
      Pass w s { s with outs := s.outs ++ [Out.waitRet w.id s.now], retLog := s.retLog ++ [(w.id, w.before)] }
  | block {s : St} : s.event = false → Pass w s { s with flaggers := s.flaggers ++ [w] }

theorem cancelGetting_inv {P : St → Prop} {w : Waiter} (h : ∀ s s', P s → Pass w s s' → P s') {s : St} (hs : P s) :
    P (cancelGetting s w) := by
  unfold cancelGetting
  split
  · split
    · rename_i g hg hc; exact h _ _ hs (.cancel hc.1 hg hc.2)
    · exact hs
  · exact hs

theorem passJoin_inv {P : St → Prop} {w : Waiter} (h : ∀ s s', P s → Pass w s s' → P s') {s : St} (hs : P s) :
    P (passJoin s w) := by
  have h1 := cancelGetting_inv h hs
  unfold passJoin
  simp only []
  split
  · rename_i he; exact h _ _ h1 (.ret he)
  · rename_i he; exact h _ _ h1 (.block (by simpa using he))

theorem checkJoin_inv {P : St → Prop} {s : St} (pass : ∀ w ∈ s.joiners, ∀ x x', P x → Pass w x x' → P x')
    (clear : s.unfinished = 0 → P { s with joiners := [] }) (keep : s.unfinished ≠ 0 → P s) : P (checkJoin s) := by
  unfold checkJoin
  split
  · rename_i hu
    exact List.foldlRecOn _ passJoin (clear hu) fun _ hx w hw => passJoin_inv (pass w hw) hx
  · rename_i hu; exact keep hu

/-- the `iter` step before the callbacks of `task_done()` run -/
def iterCore (s : St) : St :=
  { s with queue := [], unfinished := s.unfinished - s.queue.length, gens := [],
           getting := some { deadline := s.now + s.T, state := .pending, captured := [] },
           pendingItems := ((s.gens ++ s.queue).map pitems).flatten,
           pc := .loading (maxUntil s.now (s.gens ++ s.queue)) }

/-- the cases of `zstep` -/
inductive ZStep : St → St → Prop
  | take {s : St} {p : Producer} {rest : List Producer} : s.pc = Pc.idle → s.queue = p :: rest →
      ZStep s { s with queue := rest, event := false, unfinished := s.unfinished - 1, gens := [p], pc := .iter }
  | iter {s : St} : s.pc = Pc.iter → ZStep s (checkJoin (iterCore s))
  | got {s : St} {g : Getting} : s.pc = Pc.decide → s.getting = some g → g.state = GState.got →
      ZStep s { s with pc := .loadcap (s.now + pdur g.captured), pendingItems := pitems g.captured }
  | flush {s : St} {g : Getting} : s.pc = Pc.decide → s.getting = some g →
      g.state = GState.timedout ∨ g.state = GState.cancelled → ZStep s { s with pc := .runfunc }
  | await {s : St} {g : Getting} : s.pc = Pc.decide → s.getting = some g → g.state = GState.pending →
      ZStep s { s with pc := .awaitget }
  | done {s : St} : s.pc = Pc.runfunc → s.inputs = [] → ZStep s { setEvent s with pc := .endround }
  | call {s : St} : s.pc = Pc.runfunc → s.inputs ≠ [] →
      ZStep s { s with ninv := s.ninv + 1, outs := s.outs ++ [Out.start s.now (sortNat s.inputs)],
                       pc := .running (s.now + ((s.outcomes[s.ninv]?).getD (0, true)).1)
                                      ((s.outcomes[s.ninv]?).getD (0, true)).2 }
  | sleep {s : St} : s.pc = Pc.endround → ZStep s { s with pc := .idle }

/-- the cases of `fireTimed` that `nextTimed` can select, in a state whose clock is already there; the time-out
carries what `nextTimed`'s order gives: it is due, and loading does not end before it -/
inductive Fire : St → St → Prop
  | timeout {s : St} {g : Getting} : s.getting = some g → g.state = GState.pending → s.pc ≠ Pc.idle →
      g.deadline ≤ s.now → (∀ u, s.pc = Pc.loading u → g.deadline ≤ u) →
      Fire s { s with getting := some { g with state := .timedout },
                      pc := if s.pc = Pc.awaitget then Pc.decide else s.pc }
  | loaded {s : St} {u : Nat} : s.pc = Pc.loading u →
      Fire s { s with inputs := addInputs s.inputs s.pendingItems, pendingItems := [], pc := .decide }
  | capLoaded {s : St} {u : Nat} : s.pc = Pc.loadcap u →
      Fire s { s with inputs := addInputs s.inputs s.pendingItems, pendingItems := [],
                      unfinished := s.unfinished - 1, gens := [], pc := .iter }
  | finOk {s : St} {u : Nat} : s.pc = Pc.running u true →
      Fire s { setEvent { s with outs := s.outs ++ [Out.fin s.now true],
                                 delivered := s.delivered ++ sortNat s.inputs, inputs := [] } with pc := .endround }
  | finFail {s : St} {u : Nat} : s.pc = Pc.running u false →
      Fire s { s with outs := s.outs ++ [Out.fin s.now false], gens := [], pc := .iter }

theorem zstep_step {s s' : St} (hz : zstep s = some s') : ZStep s s' := by
  unfold zstep at hz
  split at hz
  · cases hz
  · split at hz
    · split at hz
      · cases hz
      · rename_i hpc _ _ _ hq; cases hz; exact .take hpc hq
    · rename_i hpc; cases hz; exact .iter hpc
    · rename_i hpc
      split at hz
      · cases hz
      · rename_i g hg
        split at hz <;> cases hz <;> rename_i hst
        · exact .got hpc hg hst
        · exact .flush hpc hg (.inl hst)
        · exact .flush hpc hg (.inr hst)
        · exact .await hpc hg hst
    · rename_i hpc
      split at hz <;> cases hz <;> rename_i he
      · exact .done hpc (by simpa using he)
      · exact .call hpc (by simpa using he)
    · rename_i hpc; cases hz; exact .sleep hpc
    · cases hz

/-- the third case (no timed read yet) does not occur in a run (`L0.getSome`, `Rest.lean`) -/
theorem zstep_none {s : St} (hal : s.daemonEnded = false) (hz : zstep s = none) :
    (s.pc = .idle ∧ s.queue = []) ∨ s.pc = .awaitget ∨ (s.pc = .decide ∧ s.getting = none) ∨
    (∃ u, s.pc = .loading u) ∨ (∃ u, s.pc = .loadcap u) ∨ ∃ u ok, s.pc = .running u ok := by
  unfold zstep at hz
  cases hpc : s.pc <;> simp [hal, hpc] at hz ⊢
  · cases hq : s.queue <;> simp [hq] at hz ⊢
  · cases hg : s.getting <;> simp [hg] at hz ⊢
    split at hz <;> cases hz
  · split at hz <;> cases hz

theorem nextTimed_cases {s : St} {when kind : Nat} (hn : nextTimed s = some (when, kind)) :
    (kind = 0 ∧ ∃ g, s.getting = some g ∧ g.state = GState.pending ∧ s.pc ≠ Pc.idle ∧ when = g.deadline ∧
      ∀ u, s.pc = Pc.loading u → g.deadline ≤ u) ∨
    (kind = 1 ∧ ((∃ u, s.pc = Pc.loading u) ∨ (∃ u, s.pc = Pc.loadcap u) ∨ (∃ u ok, s.pc = Pc.running u ok))) := by
  unfold nextTimed at hn
  split at hn
  · cases hn
  · cases hg : s.getting <;> cases hpc : s.pc <;> simp [hg, hpc] at hn ⊢ <;> grind

theorem nextTimed_none {s : St} (hal : s.daemonEnded = false) (hn : nextTimed s = none) :
    (∀ g, s.getting = some g → g.state = .pending → s.pc = .idle) ∧ (∀ u, s.pc ≠ .loading u) ∧
    (∀ u, s.pc ≠ .loadcap u) ∧ ∀ u ok, s.pc ≠ .running u ok := by
  unfold nextTimed at hn
  cases hg : s.getting <;> cases hpc : s.pc <;> simp [hal, hg, hpc] at hn ⊢ <;> grind

theorem nextTimed_spec (s : St) (when kind : Nat) (hn : nextTimed s = some (when, kind)) :
    (kind = 0 ∧ ∃ g, s.getting = some g ∧ g.state = GState.pending ∧ s.pc ≠ Pc.idle) ∨
    (kind = 1 ∧ ((∃ u, s.pc = Pc.loading u) ∨ (∃ u, s.pc = Pc.loadcap u) ∨ (∃ u ok, s.pc = Pc.running u ok))) :=
  (nextTimed_cases hn).imp (fun ⟨hk, g, hg, hs, hp, _⟩ => ⟨hk, g, hg, hs, hp⟩) id

theorem fireTimed_fire {s : St} {when kind : Nat} (hn : nextTimed s = some (when, kind)) :
    Fire { s with now := max s.now when } (fireTimed s when kind) := by
  rcases nextTimed_cases hn with ⟨rfl, g, hg, hs, hp, hw, hl⟩ | ⟨rfl, ⟨u, hpc⟩ | ⟨u, hpc⟩ | ⟨u, ok, hpc⟩⟩
  · have := Fire.timeout (s := { s with now := max s.now when }) hg hs hp (by rw [hw]; exact Nat.le_max_right ..) hl
    simpa [fireTimed, hg] using this
  · simpa [fireTimed, hpc] using Fire.loaded (s := { s with now := max s.now when }) hpc
  · simpa [fireTimed, hpc] using Fire.capLoaded (s := { s with now := max s.now when }) hpc
  · cases ok
    · simpa [fireTimed, hpc] using Fire.finFail (s := { s with now := max s.now when }) hpc
    · simpa [fireTimed, hpc] using Fire.finOk (s := { s with now := max s.now when }) hpc

/-- `P` is kept by what the machine does by itself; `clock` is the record update of `arrive` (it also writes `tie`). -/
structure Stable (P : St → Prop) : Prop where
  step : ∀ s s', P s → ZStep s s' → P s'
  fire : ∀ s s', P s → Fire s s' → P s'
  clock : ∀ s t b, P s → s.now ≤ t → P { s with now := t, tie := b }

theorem Stable.and {C P : St → Prop} (hC : Stable C) (step : ∀ s s', C s → P s → ZStep s s' → P s')
    (fire : ∀ s s', C s → P s → Fire s s' → P s') (clock : ∀ s t b, P s → s.now ≤ t → P { s with now := t, tie := b }) :
    Stable (fun s => C s ∧ P s) :=
  ⟨fun s s' h hz => ⟨hC.step s s' h.1 hz, step s s' h.1 h.2 hz⟩, fun s s' h hf => ⟨hC.fire s s' h.1 hf, fire s s' h.1 h.2 hf⟩,
   fun s t b h ht => ⟨hC.clock s t b h.1 ht, clock s t b h.2 ht⟩⟩

theorem Stable.fireTimed {P : St → Prop} (hP : Stable P) {s : St} {when kind : Nat} (hn : nextTimed s = some (when, kind))
    (hs : P s) : P (fireTimed s when kind) :=
  hP.fire _ _ (hP.clock s _ s.tie hs (Nat.le_max_left ..)) (fireTimed_fire hn)

/-- one move of the machine left alone: a step of the background task if one is enabled, else the earliest timed event -/
def tick (s : St) : Option St :=
  match zstep s with
  | some s' => some s'
  | none =>
    match nextTimed s with
    | some (w, k) => some (fireTimed s w k)
    | none => none

def tickN : Nat → St → St
  | 0, s => s
  | n + 1, s =>
    match tick s with
    | some s' => tickN n s'
    | none => s

theorem tickN_succ_some (n : Nat) (s s' : St) (ht : tick s = some s') : tickN (n + 1) s = tickN n s' := by
  simp [tickN, ht]

theorem tickN_none (n : Nat) (s : St) (ht : tick s = none) : tickN n s = s := by
  cases n <;> simp [tickN, ht]

theorem tick_cases {s s' : St} (ht : tick s = some s') :
    zstep s = some s' ∨ ∃ w k, zstep s = none ∧ nextTimed s = some (w, k) ∧ s' = fireTimed s w k := by
  unfold tick at ht
  split at ht
  · rename_i hz; cases ht; exact .inl hz
  · rename_i hz
    split at ht
    · rename_i hn; cases ht; exact .inr ⟨_, _, hz, hn, rfl⟩
    · cases ht

theorem Stable.tick {P : St → Prop} (hP : Stable P) {s s' : St} (ht : tick s = some s') (hs : P s) : P s' := by
  rcases tick_cases ht with hz | ⟨w, k, _, hn, rfl⟩
  · exact hP.step _ _ hs (zstep_step hz)
  · exact hP.fireTimed hn hs

theorem Stable.tickN {P : St → Prop} (hP : Stable P) : ∀ (n : Nat) (s : St), P s → P (tickN n s) := by
  intro n
  induction n with
  | zero => intro s hs; exact hs
  | succ n ih =>
    intro s hs
    cases ht : Buffer.tick s with
    | none => rw [tickN_none _ s ht]; exact hs
    | some s' => rw [tickN_succ_some n s s' ht]; exact ih s' (hP.tick ht hs)

theorem tickN_add : ∀ (a b : Nat) (s : St), ∃ k, tickN b (tickN a s) = tickN k s := by
  intro a
  induction a with
  | zero => intro b s; exact ⟨b, rfl⟩
  | succ n ih =>
    intro b s
    cases ht : tick s with
    | none => exact ⟨0, by rw [tickN_none _ s ht, tickN_none _ s ht]; rfl⟩
    | some s' =>
      obtain ⟨k, hk⟩ := ih b s'
      exact ⟨k + 1, by rw [tickN_succ_some n s s' ht, tickN_succ_some k s s' ht]; exact hk⟩

/-- the fields that only the clock and the inputs change -/
structure Same (s s' : St) : Prop where
  T : s'.T = s.T
  now : s'.now = s.now
  submitted : s'.submitted = s.submitted

theorem Same.refl (s : St) : Same s s := ⟨rfl, rfl, rfl⟩

theorem Same.trans {a b c : St} (h1 : Same a b) (h2 : Same b c) : Same a c :=
  ⟨h2.1.trans h1.1, h2.2.trans h1.2, h2.3.trans h1.3⟩

theorem Pass.same {w : Waiter} {s s' : St} (h : Pass w s s') : Same s s' := by cases h <;> exact ⟨rfl, rfl, rfl⟩

theorem passJoin_same (s : St) (w : Waiter) : Same s (passJoin s w) :=
  passJoin_inv (P := Same s) (fun _ _ h hp => h.trans hp.same) (.refl s)

theorem ZStep.same {s s' : St} (h : ZStep s s') : Same s s' := by
  cases h
  case iter => exact checkJoin_inv (P := Same s) (fun _ _ _ _ h hp => h.trans hp.same) (fun _ => ⟨rfl, rfl, rfl⟩) (fun _ => ⟨rfl, rfl, rfl⟩)
  all_goals exact ⟨rfl, rfl, rfl⟩

theorem Fire.same {s s' : St} (h : Fire s s') : Same s s' := by cases h <;> exact ⟨rfl, rfl, rfl⟩

/-- how many zero-time steps may still follow in one `settle` (`ZStep.lowers`); not the `rank` of `Terminates.lean`, which
orders whole attempts and has `iter` on top -/
def Pc.rank : Pc → Nat
  | .decide => 5
  | .runfunc => 4
  | .endround => 3
  | .idle => 2
  | .iter => 1
  | _ => 0

theorem Pass.pc_loading {w : Waiter} {s s' : St} {u : Nat} (hs : s.pc = Pc.loading u) (h : Pass w s s') :
    s'.pc = Pc.loading u := by
  cases h
  case cancel => simp [hs]
  all_goals exact hs

theorem ZStep.lowers {s s' : St} (h : ZStep s s') : s'.pc.rank < s.pc.rank := by
  cases h
  case iter hpc =>
    rw [checkJoin_inv (P := fun x => x.pc = Pc.loading _) (fun _ _ _ _ h hp => hp.pc_loading h) (fun _ => rfl) (fun _ => rfl), hpc]
    simp [Pc.rank]
  all_goals simp_all [Pc.rank]

/-- `Pc.rank` falls with every step: there are at most five -/
theorem settle_spec {P : St → Prop} (step : ∀ s s', P s → ZStep s s' → P s') : ∀ (fuel : Nat) (s : St), P s →
    P (settle fuel s) ∧ (∃ k, settle fuel s = tickN k s) ∧ (s.pc.rank ≤ fuel → zstep (settle fuel s) = none) := by
  intro fuel
  induction fuel with
  | zero =>
    intro s hs
    refine ⟨hs, ⟨0, rfl⟩, fun h => ?_⟩
    cases hz : zstep s with
    | none => exact hz
    | some s' => have := (zstep_step hz).lowers; omega
  | succ n ih =>
    intro s hs
    unfold settle
    cases hz : zstep s with
    | none => exact ⟨hs, ⟨0, rfl⟩, fun _ => hz⟩
    | some s' =>
      have hlt := (zstep_step hz).lowers
      obtain ⟨h1, ⟨k, h2⟩, h3⟩ := ih s' (step s s' hs (zstep_step hz))
      exact ⟨h1, ⟨k + 1, by rw [tickN_succ_some k s s' (by unfold tick; rw [hz])]; exact h2⟩, fun h => h3 (by omega)⟩

theorem settle_same (fuel : Nat) (s : St) : Same s (settle fuel s) :=
  (settle_spec (P := Same s) (fun _ _ h hz => h.trans hz.same) fuel s (.refl s)).1

theorem settle_default_fix (s : St) : zstep (settle fuelDefault s) = none :=
  (settle_spec (P := fun _ => True) (fun _ _ _ _ => trivial) fuelDefault s trivial).2.2
    (Nat.le_trans (by cases s.pc <;> simp [Pc.rank]) (by decide : 5 ≤ fuelDefault))

theorem advance_spec : ∀ (fuel t : Nat) (strict : Bool) (s : St), (∃ k, advance fuel t strict s = tickN k s) ∧
    zstep (advance fuel t strict s) = none ∧ (s.now ≤ t → (advance fuel t strict s).now ≤ t) := by
  intro fuel t strict
  -- where `advance` stops unless a timed event is due
  have stop (s : St) : (∃ k, settle fuelDefault s = tickN k s) ∧ zstep (settle fuelDefault s) = none ∧
      (s.now ≤ t → (settle fuelDefault s).now ≤ t) :=
    ⟨(settle_spec (P := fun _ => True) (fun _ _ _ _ => trivial) _ s trivial).2.1, settle_default_fix s,
      fun h => (settle_same _ s).now ▸ h⟩
  induction fuel with
  | zero => exact stop
  | succ n ih =>
    intro s
    unfold advance
    simp only []
    split
    · exact stop s
    · rename_i when kind hn
      split
      · rename_i hdue
        obtain ⟨⟨k1, h1⟩, hfix, -⟩ := stop s
        obtain ⟨⟨k2, h2⟩, h3, h4⟩ := ih (fireTimed (settle fuelDefault s) when kind)
        refine ⟨?_, h3, fun h => h4 ?_⟩
        · -- one more tick from the settled state is the timed event: no zero-time step is enabled there
          have ht : tick (settle fuelDefault s) = some (fireTimed (settle fuelDefault s) when kind) := by
            unfold tick
            rw [hfix, hn]
          rw [h2, ← tickN_succ_some k2 _ _ ht, h1]
          exact tickN_add k1 (k2 + 1) s
        · rw [(fireTimed_fire hn).same.now]
          show max (settle fuelDefault s).now when ≤ t
          rw [(settle_same fuelDefault s).now]
          rcases hdue with h1 | ⟨_, h2⟩ <;> omega
      · exact stop s

/-- the drain of `runProgram` is a fuel- and horizon-bounded iteration of `tick` -/
theorem advance_is_ticks : ∀ (fuel t : Nat) (strict : Bool) (s : St), ∃ k, advance fuel t strict s = tickN k s :=
  fun fuel t strict s => (advance_spec fuel t strict s).1

section
variable {P : St → Prop} (hP : Stable P)
include hP

theorem Stable.settle (fuel : Nat) (s : St) (hs : P s) : P (settle fuel s) := (settle_spec hP.step fuel s hs).1

theorem Stable.advance (fuel t : Nat) (strict : Bool) (s : St) (hs : P s) : P (advance fuel t strict s) := by
  obtain ⟨k, h⟩ := advance_is_ticks fuel t strict s
  rw [h]
  exact hP.tickN k s hs

theorem Stable.arrive (s : St) (t : Nat) (hs : P s) : P (arrive s t) := by
  unfold Buffer.arrive
  split
  · exact hs
  · exact hP.clock _ _ _ (hP.advance _ t true s hs) ((advance_spec _ t true s).2.2 (by omega))

end

theorem arrive_settled (s : St) (t : Nat) :
    arrive s t = s ∨ ∃ a b, zstep a = none ∧ arrive s t = { a with now := t, tie := b } := by
  unfold arrive
  split
  · exact .inl rfl
  · exact .inr ⟨_, _, (advance_spec _ t true s).2.1, rfl⟩

def In.isShutdown : In → Bool
  | .shutdown _ => true
  | _ => false

/-- `ev`: the flag the submission leaves (`submit` clears it, a foreign `fput` leaves it as it is) -/
inductive Put (p : Producer) (ev : Bool) : St → St → Prop
  | queued {s : St} : (s.pc = Pc.idle ∨ ∀ g, s.getting = some g → g.state ≠ GState.pending) →
      Put p ev s { s with event := ev, unfinished := s.unfinished + 1, submitted := s.submitted ++ pitems p,
                          subTimes := s.subTimes ++ [s.now], lastSub := s.now, queue := s.queue ++ [p] }
  | captured {s : St} {g : Getting} : s.pc ≠ Pc.idle → s.getting = some g → g.state = GState.pending →
      Put p ev s { s with event := ev, unfinished := s.unfinished + 1, submitted := s.submitted ++ pitems p,
                          subTimes := s.subTimes ++ [s.now], lastSub := s.now,
                          getting := some { g with state := .got, captured := p },
                          pc := if s.pc = Pc.awaitget then Pc.decide else s.pc }

/-- the cases of `applyIn` after `arrive`; none for `shutdown` -/
inductive Input : In → St → St → Prop
  | submit {s s' : St} {t : Nat} {p : Producer} : Put p false s s' → Input (.submit t p) s s'
  | fput {s s' : St} {t : Nat} {p : Producer} : Put p s.event s s' → Input (.fput t p) s s'
  | pass {s : St} {t id : Nat} {c : Bool} : s.unfinished = 0 →
      Input (.wait t id c) s (passJoin s { id := id, cancel := c, before := s.submitted.length })
  | join {s : St} {t id : Nat} {c : Bool} : s.unfinished ≠ 0 →
      Input (.wait t id c) s { s with joiners := s.joiners ++ [{ id := id, cancel := c, before := s.submitted.length }] }
  | fclear {s : St} {t : Nat} : Input (.fclear t) s { s with event := false }

theorem put_cases (s : St) (p : Producer) (ev : Bool) :
    Put p ev s (let s := { s with event := ev, unfinished := s.unfinished + 1, submitted := s.submitted ++ pitems p,
                                  subTimes := s.subTimes ++ [s.now], lastSub := s.now }
       if s.pc = Pc.idle then { s with queue := s.queue ++ [p] }
       else match s.getting with
         | some g =>
           if g.state = GState.pending then
             { s with getting := some { g with state := .got, captured := p },
                      pc := if s.pc = Pc.awaitget then Pc.decide else s.pc }
           else { s with queue := s.queue ++ [p] }
         | none => { s with queue := s.queue ++ [p] }) := by
  simp only []
  split
  · rename_i h; exact .queued (.inl h)
  · rename_i h
    split
    · rename_i g hg
      split
      · rename_i hst; exact .captured h hg hst
      · rename_i hst; exact .queued (.inr fun g' hg' => by cases hg.symm.trans hg'; exact hst)
    · rename_i hg; exact .queued (.inr fun g' hg' => by cases hg.symm.trans hg')

theorem applyIn_input {s : St} {i : In} (h : i.isShutdown = false) : Input i (arrive s i.time) (applyIn s i) := by
  unfold applyIn
  generalize arrive s i.time = a
  cases i with
  | submit t p => exact .submit (put_cases a p false)
  | wait t id c =>
    simp only []
    split
    · rename_i hu; exact .pass hu
    · rename_i hu; exact .join hu
  | shutdown => cases h
  | fclear => exact .fclear
  | fput t p => exact .fput (put_cases a p a.event)

theorem Stable.applyIn {P : St → Prop} (hP : Stable P) {s : St} {i : In} (input : ∀ a a', P a → Input i a a' → P a')
    (hsd : i.isShutdown = false) (hs : P s) : P (applyIn s i) :=
  input _ _ (hP.arrive s i.time hs) (applyIn_input hsd)

theorem Stable.run {P : St → Prop} (hP : Stable P) {ok : In → Prop} (input : ∀ i a a', ok i → P a → Input i a a' → P a')
    (hok : ∀ i, ok i → i.isShutdown = false) {s : St} (ins : List In) (hin : ∀ i ∈ ins, ok i) (hs : P s) :
    P (ins.foldl Buffer.applyIn s) ∧ P (runProgram s ins) := by
  have h := List.foldlRecOn ins Buffer.applyIn hs fun _ hs i hi => hP.applyIn (input i · · (hin i hi)) (hok i (hin i hi)) hs
  exact ⟨h, hP.advance _ _ _ _ h⟩

theorem T_stable (a : Nat) : Stable (fun s => s.T = a) :=
  ⟨fun _ _ h hz => hz.same.T.trans h, fun _ _ h hf => hf.same.T.trans h, fun _ _ _ h _ => h⟩

theorem submitted_stable (l : List Nat) : Stable (fun s => s.submitted = l) :=
  ⟨fun _ _ h hz => hz.same.submitted.trans h, fun _ _ h hf => hf.same.submitted.trans h, fun _ _ _ h _ => h⟩

theorem Input.T {i : In} {s s' : St} (h : Input i s s') : s'.T = s.T := by
  cases h
  case submit hp | fput hp => cases hp <;> rfl
  case pass => exact (passJoin_same s _).T
  all_goals rfl

/-- shutdown included -/
theorem applyIn_T (s : St) (i : In) : (applyIn s i).T = s.T := by
  have ha := (T_stable s.T).arrive s i.time rfl
  cases hsd : i.isShutdown
  · exact (applyIn_input hsd).T.trans ha
  · cases i <;> cases hsd
    have : ∀ x, (cancelDaemon x).T = x.T := fun x => by
      unfold cancelDaemon
      simp only []
      split <;> (try rfl)
      split <;> rfl
    exact (this _).trans ((settle_same _ _).T.trans ha)

theorem foldl_applyIn_T : ∀ (ins : List In) (s : St), (ins.foldl applyIn s).T = s.T :=
  fun ins s => List.foldlRecOn ins applyIn (motive := fun x => x.T = s.T) rfl fun x h i _ => (applyIn_T x i).trans h

theorem runProgram_T (s : St) (ins : List In) : (runProgram s ins).T = s.T :=
  (T_stable s.T).advance _ _ _ _ (foldl_applyIn_T ins s)

end AiutiVerif.Buffer
