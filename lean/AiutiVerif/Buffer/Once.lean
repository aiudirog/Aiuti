import AiutiVerif.Buffer.InvStep
/-!
# Exactly once (C03): no argument is passed to two successful calls

When the submitted arguments are pairwise distinct, the arguments of the successful calls of the wrapped
function — `delivered`, which the invariant `K` proves equal to what the output stream says — never
contain an element twice: the not-yet-delivered places (queue, loaders, captured producer, items being
loaded, the round's input set) never hold an element that has been delivered, and what is queued is
not anywhere further down the pipeline.

Each move only passes elements down the pipeline, so each case is a fact about membership in six lists
(`X6`), left to `grind` once the lists of the new state are written in terms of the old.
-/
namespace AiutiVerif.Buffer

theorem nodup_addInputs (xs : List Nat) : ∀ (acc : List Nat), acc.Nodup → (addInputs acc xs).Nodup := by
  induction xs with
  | nil => intro acc h; exact h
  | cons y r ih =>
    intro acc h
    show (addInputs (if acc.contains y then acc else acc ++ [y]) r).Nodup
    apply ih
    split <;> simp_all [List.nodup_append] <;> grind

theorem nodup_sortNat (l : List Nat) (h : l.Nodup) : (sortNat l).Nodup := (sortNat_perm l).nodup_iff.mpr h

/-- queue `q`, loaders `g`, timed read `c`, being loaded `p`, input set `i`, delivered `d` -/
structure X6 (q g c p i d : List Nat) : Prop where
  inNodup : i.Nodup
  delNodup : d.Nodup
  notYet : ∀ x, (x ∈ q ∨ x ∈ g ∨ x ∈ c ∨ x ∈ p ∨ x ∈ i) → x ∉ d
  qFresh : ∀ x ∈ q, x ∉ g ∧ x ∉ c ∧ x ∉ p ∧ x ∉ i
  qNodup : q.Nodup

namespace X6
variable {q g c p i d a g' c' p' : List Nat}

theorem mono (h : X6 q g c p i d) (hg : g' ⊆ g) (hc : c' ⊆ c) (hp : p' ⊆ p) : X6 q g' c' p' i d := by
  obtain ⟨x1, x2, x3, x4, x5⟩ := h
  exact ⟨x1, x2, by grind, by grind, x5⟩

theorem take (h : X6 (a ++ q) g c p i d) : X6 q a c p i d := by
  obtain ⟨x1, x2, x3, x4, x5⟩ := h
  exact ⟨x1, x2, by grind, by grind, by grind⟩

theorem iter (h : X6 q g c p i d) : X6 [] [] [] (g ++ q) i d := by
  obtain ⟨x1, x2, x3, x4, x5⟩ := h
  exact ⟨x1, x2, by grind, nofun, .nil⟩

theorem got (h : X6 q g c p i d) : X6 q g c c i d := by
  obtain ⟨x1, x2, x3, x4, x5⟩ := h
  exact ⟨x1, x2, by grind, by grind, x5⟩

theorem load (h : X6 q g c p i d) : X6 q g c [] (addInputs i p) d := by
  obtain ⟨x1, x2, x3, x4, x5⟩ := h
  exact ⟨nodup_addInputs p i x1, x2, by grind [mem_addInputs], by grind [mem_addInputs], x5⟩

/-- a successful call; only the queue holds anything else then -/
theorem deliver (h : X6 q [] [] [] i d) : X6 q [] [] [] [] (d ++ sortNat i) := by
  obtain ⟨x1, x2, x3, x4, x5⟩ := h
  exact ⟨.nil, by have := nodup_sortNat i x1; grind [mem_sortNat], by grind [mem_sortNat], by grind, x5⟩

theorem queue (h : X6 q g c p i d) (ha : a.Nodup)
    (hf : ∀ x ∈ a, x ∉ q ∧ x ∉ g ∧ x ∉ c ∧ x ∉ p ∧ x ∉ i ∧ x ∉ d) : X6 (q ++ a) g c p i d := by
  obtain ⟨x1, x2, x3, x4, x5⟩ := h
  exact ⟨x1, x2, by grind, by grind, by grind⟩

theorem capture (h : X6 q g [] p i d) (hf : ∀ x ∈ a, x ∉ q ∧ x ∉ d) : X6 q g a p i d := by
  obtain ⟨x1, x2, x3, x4, x5⟩ := h
  exact ⟨x1, x2, by grind, by grind, x5⟩

end X6

def X (s : St) : Prop := X6 (flat s.queue) (flat s.gens) (capItems s) s.pendingItems s.inputs s.delivered

theorem X_pass {w : Waiter} {s s' : St} (hx : X s) (hp : Pass w s s') : X s' := by
  cases hp
  case cancel g _ hg => exact hx.mono (fun _ h => h) (by simp [capItems]) (fun _ h => h)
  all_goals exact hx

theorem X_step {s s' : St} (hx : X s) (hz : ZStep s s') : X s' := by
  cases hz
  case take p rest hpc hqu =>
    show X6 (flat rest) (flat [p]) (capItems s) s.pendingItems s.inputs s.delivered
    unfold X at hx
    rw [hqu, flat_cons] at hx
    simpa only [flat_cons, flat_nil, List.append_nil] using hx.take
  case iter hpc =>
    have h : X (iterCore s) := by simpa [X, iterCore, capItems, flat] using hx.iter
    exact checkJoin_inv (fun _ _ _ _ => X_pass) (fun _ => h) (fun _ => h)
  case got g hpc hg hst =>
    show X6 (flat s.queue) (flat s.gens) (capItems s) (pitems g.captured) s.inputs s.delivered
    rw [show pitems g.captured = capItems s by simp [capItems, hg, hst]]
    exact hx.got
  -- the other steps leave the six lists alone
  all_goals exact hx

theorem X_fire {s s' : St} (hk : K s) (hx : X s) (hf : Fire s s') : X s' := by
  cases hf
  case timeout g hg hst _ _ _ => exact hx.mono (fun _ h => h) (by simp [capItems]) (fun _ h => h)
  case loaded =>
    show X6 (flat s.queue) (flat s.gens) (capItems s) [] (addInputs s.inputs s.pendingItems) s.delivered
    exact hx.load
  case capLoaded =>
    show X6 (flat s.queue) [] (capItems s) [] (addInputs s.inputs s.pendingItems) s.delivered
    exact hx.load.mono (List.nil_subset _) (fun _ h => h) (fun _ h => h)
  case finOk u hpc =>
    -- while the function runs only the queue holds anything besides the input set (`K`)
    obtain ⟨hg, hp, hc, _⟩ := hk.roundEnd (by rw [hpc]; rfl)
    show X6 (flat s.queue) (flat s.gens) (capItems s) s.pendingItems [] (s.delivered ++ sortNat s.inputs)
    unfold X at hx
    rw [hg, hp, hc] at hx ⊢
    exact hx.deliver
  case finFail => exact hx.mono (List.nil_subset _) (fun _ h => h) (fun _ h => h)

theorem KX_stable : Stable (fun s => K s ∧ X s) :=
  K_stable.and (fun _ _ _ => X_step) (fun _ _ => X_fire) (fun _ _ _ h _ => h)

theorem flat_snoc (q : List Producer) (p : Producer) : flat (q ++ [p]) = flat q ++ pitems p := by simp [flat]

/-- elements never submitted before are, by `K.only`, nowhere in the machine -/
theorem X_put {p : Producer} {ev : Bool} {s s' : St} (hk : K s) (hx : X s) (hn : (pitems p).Nodup)
    (hf : ∀ x ∈ pitems p, x ∉ s.submitted) (hp : Put p ev s s') : X s' := by
  have fresh : ∀ x ∈ pitems p, x ∉ flat s.queue ∧ x ∉ flat s.gens ∧ x ∉ capItems s ∧ x ∉ s.pendingItems ∧
      x ∉ s.inputs ∧ x ∉ s.delivered := fun x hx => by
    have := mt (hk.only x) (hf x hx)
    simpa only [Held, not_or] using this
  cases hp
  case queued =>
    show X6 (flat (s.queue ++ [p])) (flat s.gens) (capItems s) s.pendingItems s.inputs s.delivered
    rw [flat_snoc]
    exact hx.queue hn fresh
  case captured g hpc hg hst =>
    have h0 : capItems s = [] := by simp [capItems, hg, hst]
    unfold X at hx
    rw [h0] at hx
    show X6 (flat s.queue) (flat s.gens) (pitems p) s.pendingItems s.inputs s.delivered
    exact hx.capture fun x hx => ⟨(fresh x hx).1, (fresh x hx).2.2.2.2.2⟩

/-- the elements a program submits, in order -/
def allItems : List In → List Nat
  | [] => []
  | .submit _ p :: r => pitems p ++ allItems r
  | .fput _ p :: r => pitems p ++ allItems r
  | _ :: r => allItems r

theorem allItems_cons (i : In) (r : List In) : allItems (i :: r) = allItems [i] ++ allItems r := by
  cases i <;> simp [allItems]

theorem Input.submitted {i : In} {s s' : St} (h : Input i s s') : s'.submitted = s.submitted ++ allItems [i] := by
  cases h
  case submit hp | fput hp => cases hp <;> simp [allItems]
  case pass => simpa [allItems] using (passJoin_same s _).submitted
  all_goals simp [allItems]

theorem X_input {i : In} {s s' : St} (hk : K s) (hx : X s) (hn : (s.submitted ++ allItems [i]).Nodup)
    (h : Input i s s') : X s' := by
  have hn' := List.nodup_append.mp hn
  cases h
  case submit hp | fput hp =>
    exact X_put hk hx (by simpa [allItems] using hn'.2.1) (fun x hx hs => hn'.2.2 x hs x (by simpa [allItems] using hx) rfl) hp
  case pass => exact passJoin_inv (fun _ _ => X_pass) hx
  all_goals exact hx

theorem KX_foldl : ∀ (ins : List In) (s : St), K s → X s → (∀ i ∈ ins, i.isShutdown = false) →
    (s.submitted ++ allItems ins).Nodup → K (ins.foldl applyIn s) ∧ X (ins.foldl applyIn s) := by
  intro ins
  induction ins with
  | nil => intro s hk hx _ _; exact ⟨hk, hx⟩
  | cons i r ih =>
    intro s hk hx hsd hn
    rw [allItems_cons, ← List.append_assoc] at hn
    have hi := applyIn_input (s := s) (hsd i (by simp))
    have ⟨hk1, hx1⟩ := KX_stable.arrive s i.time ⟨hk, hx⟩
    have hs := (submitted_stable _).arrive s i.time rfl
    refine ih _ (K_input hk1 hi) (X_input hk1 hx1 (by rw [hs]; exact (List.nodup_append.mp hn).1) hi)
      (fun j hj => hsd j (List.mem_cons_of_mem _ hj)) ?_
    rw [hi.submitted, hs]
    exact hn

theorem X_fresh (s : St) (h : Fresh s) : X s := by
  unfold Fresh at h
  constructor <;> simp [h, capItems, flat]

end AiutiVerif.Buffer
