import AiutiVerif.Buffer.InvStep
/-!
# Buffer property theorems (C03, C07, C08) at step level

Theorems about one step of `Buffer/Model.lean` (every state, reachable or not): what a failed /
successful call does to the round's input set, that the function is never called with an empty
set, which phases survive a shutdown.
-/
namespace AiutiVerif.Buffer

/-- The only step that calls the wrapped function (`zstep` at `runfunc`) does so with a
non-empty set, and only from a state in which no call is in flight (`pc = runfunc`, not
`running`). -/
theorem C08_never_empty (s s' : St) (h : zstep s = some s') (t : Nat) (args : List Nat)
    (hnew : Out.start t args ∈ s'.outs) (hold : Out.start t args ∉ s.outs) :
    args ≠ [] ∧ s.pc = .runfunc ∧ ∃ u ok, s'.pc = .running u ok := by
  cases zstep_step h
  case call hpc hne =>
    rcases List.mem_append.mp hnew with hnew | hnew
    · exact absurd hnew hold
    · cases List.mem_singleton.mp hnew
      exact ⟨sortNat_ne_nil _ hne, hpc, _, _, rfl⟩
  case done => exact absurd (by simpa [setEvent] using hnew) hold
  case iter =>
    -- `checkJoin` only appends wait returns
    refine absurd ?_ hold
    revert hnew
    refine checkJoin_inv (P := fun x => Out.start t args ∈ x.outs → Out.start t args ∈ s.outs)
      (fun _ _ _ _ h hp => ?_) (fun _ h => h) (fun _ h => h)
    cases hp
    case ret => exact fun h' => h (by simpa using h')
    all_goals exact h
  all_goals exact absurd hnew hold

/-- When a call of the wrapped function ends in failure the round's input set is untouched and the daemon goes round
again (that the next call is offered a superset is `C03_failed_call_is_offered_again`). -/
theorem C03_kept_on_failure (s : St) (u : Nat) (hpc : s.pc = .running u false) :
    (fireTimed s u 1).inputs = s.inputs ∧ (fireTimed s u 1).pc = .iter ∧
    (fireTimed s u 1).delivered = s.delivered := by
  simp [fireTimed, hpc]

/-- When it succeeds the set is emptied into `delivered` and the completion flag is set. -/
theorem C03_delivered_on_success (s : St) (u : Nat) (hpc : s.pc = .running u true) :
    (fireTimed s u 1).inputs = [] ∧ (fireTimed s u 1).delivered = s.delivered ++ sortNat s.inputs ∧
    (fireTimed s u 1).event = true := by
  simp [fireTimed, hpc, setEvent]

/-- Loading only ever adds to the input set. -/
theorem addInputs_superset (inputs xs : List Nat) : ∀ x ∈ inputs, x ∈ addInputs inputs xs :=
  fun x hx => (mem_addInputs xs inputs x).mpr (.inl hx)

/-- Cancelling the daemon terminates it when it is idle (blocked on the queue) or gathering
its loaders. -/
theorem C07_shutdown_partial (s : St) (h : s.pc = .idle ∨ ∃ u, s.pc = .loading u) :
    (cancelDaemon s).daemonEnded = true := by
  rcases h with h | ⟨u, h⟩ <;> simp [cancelDaemon, h]

/-- The property's wording: cancelling the background task always terminates it.  False of the code, as the runs
below show. -/
def C07_shutdown_statement : Prop :=
  ∀ (s : St) (t : Nat), ¬ (applyIn s (.shutdown t)).daemonEnded = true → False

/-! In the three other phases the cancellation is swallowed (finding F5): the timed read armed, the function running,
a captured producer being loaded.  One model run each, replayed on the real code by the check (known findings, one
signature each). -/

theorem C07_counterexample_shutdown_timer_armed :
    let s := runProgram { T := 1024, outcomes := [(0, true)] } [.submit 1 [(0, some 0)], .shutdown 100]
    s.daemonEnded = false ∧ s.shutdownPhase = 3 ∧ s.pc = .idle := by decide

theorem C07_counterexample_shutdown_function_running :
    let s := runProgram { T := 1024, outcomes := [(2048, true)] } [.submit 1 [(0, some 0)], .shutdown 1100]
    s.daemonEnded = false ∧ s.shutdownPhase = 5 ∧ s.pc = .idle := by decide

theorem C07_counterexample_shutdown_loading_captured :
    let s := runProgram { T := 1024, outcomes := [(0, true)] }
      [.submit 1 [(0, some 0)], .submit 50 [(500, some 1)], .shutdown 100]
    s.daemonEnded = false ∧ s.shutdownPhase = 4 ∧ s.pc = .idle := by decide

/-- a burst, a failed call that is retried with the late arrival, a forced flush -/
example :
    (runProgram { T := 1024, outcomes := [(512, false), (0, true)] }
      [.submit 1 [(0, some 0)], .submit 500 [(0, some 1)], .submit 1600 [(0, some 2)], .wait 1700 7 true]).outs =
      [.start 1524 [0, 1], .fin 2036 false, .start 2036 [0, 1, 2], .fin 2036 true, .waitRet 7 2036] := by
  decide

end AiutiVerif.Buffer
