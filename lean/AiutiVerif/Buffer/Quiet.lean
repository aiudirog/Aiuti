import AiutiVerif.Buffer.InvStep
/-!
# The quiet period (C08): the wrapped function is not called while submissions keep arriving

For programs whose producers are all immediate (plain calls, synchronous iterables) and that
contain no forced flush (`wait(cancel=True)`) and no shutdown: every call of the wrapped function
starts at an instant `t` such that no submission lies strictly inside `(t - T, t)` — all earlier
submissions are at least `T` old.  (A submission at exactly `t` is a tie, which the property does
not judge.)

Inputs arrive only when the daemon is at rest (`InputOk`): `arrive` first lets every zero-time step
and every timed event due earlier happen.  Each move is shown to keep `Q` by naming the clauses it can
affect (`{ hq with … }`); a clause about a program counter the move does not lead to is `nofun`.
-/
namespace AiutiVerif.Buffer

def InputOk (s : St) : Prop :=
  s.pc ≠ Pc.runfunc ∧ s.pc ≠ Pc.iter ∧ s.pc ≠ Pc.endround ∧ (s.pc = Pc.decide → gstate s = some GState.got ∨ s.getting = none)

theorem inputOk_of_zstep_none (s : St) (hd : s.daemonEnded = false) (hz : zstep s = none) : InputOk s := by
  rcases zstep_none hd hz with h | h | h | ⟨u, h⟩ | ⟨u, h⟩ | ⟨u, ok, h⟩ <;> simp_all [InputOk]

theorem arrive_InputOk (s : St) (t : Nat) (hk : K s) (h : InputOk s) : InputOk (arrive s t) := by
  have hal := (K_stable.arrive s t hk).alive
  rcases arrive_settled s t with e | ⟨a, b, hz, e⟩
  · rw [e]; exact h
  · rw [e] at hal ⊢; exact inputOk_of_zstep_none a hal hz

theorem InputOk_put {p : Producer} {ev : Bool} {s s' : St} (hi : InputOk s) (hp : Put p ev s s') : InputOk s' := by
  cases hp
  case queued => exact hi
  case captured =>
    obtain ⟨i1, i2, i3, _⟩ := hi
    refine ⟨?_, ?_, ?_, fun _ => .inl rfl⟩ <;> (intro h; simp only [] at h; split at h <;> simp_all)

theorem InputOk_pass {w : Waiter} {s s' : St} (hw : w.cancel = false) (hi : InputOk s) (hp : Pass w s s') : InputOk s' := by
  cases hp
  case cancel hc _ _ => rw [hw] at hc; cases hc
  all_goals exact hi

def Pc.loadingUpto : Pc → Option Nat
  | .loading u => some u
  | _ => none

/-- The idea is `armed`: a pending timed read is due no earlier than `T` after the latest submission - it is created
at `now + T`, and a submission made while it is pending is captured by it, which ends it.  So the latest submission
is `T` old when it fires and when the call starts (no input comes in between: `InputOk`), and nothing else leads to
a call: nobody cancels, and the timed read does not fire while the daemon loads. -/
structure Q (s : St) : Prop where
  tpos : 0 < s.T
  immQ : ∀ p ∈ s.queue, pdur p = 0
  immG : ∀ p ∈ s.gens, pdur p = 0
  immC : ∀ g, s.getting = some g → pdur g.captured = 0
  armed : ∀ g, s.getting = some g → g.state = GState.pending → s.lastSub + s.T ≤ g.deadline
  firedD : s.pc = Pc.decide → gstate s = some GState.timedout → s.lastSub + s.T ≤ s.now
  firedR : s.pc = Pc.runfunc → s.lastSub + s.T ≤ s.now
  noCancel : gstate s ≠ some GState.cancelled
  /-- loading ends before the timed read it started with can fire -/
  loadArm : ∀ u g, s.pc = Pc.loading u → s.getting = some g → g.state = GState.pending → u < g.deadline
  loadFresh : ∀ u, s.pc = Pc.loading u → gstate s ≠ some GState.timedout
  noForceJ : ∀ w ∈ s.joiners, w.cancel = false
  noForceF : ∀ w ∈ s.flaggers, w.cancel = false
  subsLe : ∀ a ∈ s.subTimes, a ≤ s.lastSub
  lastLe : s.lastSub ≤ s.now
  startsQuiet : ∀ t a, Out.start t a ∈ s.outs → t ≤ s.now ∧ ∀ b ∈ s.subTimes, b + s.T ≤ t ∨ t ≤ b

theorem maxUntil_imm (now : Nat) (gens : List Producer) (h : ∀ p ∈ gens, pdur p = 0) : maxUntil now gens = now :=
  List.foldlRecOn gens _ (motive := (· = now)) rfl fun m hm p hp => by rw [hm, h p hp]; simp

theorem Q.starts_of {s : St} (hq : Q s) {outs : List Out} (h : ∀ t a, Out.start t a ∈ outs → Out.start t a ∈ s.outs) :
    ∀ t a, Out.start t a ∈ outs → t ≤ s.now ∧ ∀ b ∈ s.subTimes, b + s.T ≤ t ∨ t ≤ b :=
  fun t a ht => hq.startsQuiet t a (h t a ht)

theorem passJoin_joiners (s : St) (w : Waiter) : (passJoin s w).joiners = s.joiners := (passJoin_frame s w).2.2

theorem Q_pass {w : Waiter} {s s' : St} (hw : w.cancel = false) (hq : Q s) (hp : Pass w s s') : Q s' := by
  cases hp
  case cancel hc _ _ => rw [hw] at hc; cases hc
  case ret => exact { hq with startsQuiet := hq.starts_of fun t a h => by simpa using h }
  case block => exact { hq with noForceF := forall_mem_snoc hq.noForceF hw }

theorem Q_checkJoin {s : St} (hq : Q s) : Q (checkJoin s) :=
  checkJoin_inv (fun w hw _ _ => Q_pass (hq.noForceJ w hw)) (fun _ => { hq with noForceJ := nofun }) (fun _ => hq)

theorem Q_step {s s' : St} (hq : Q s) (hz : ZStep s s') : Q s' := by
  cases hz
  case take p rest hpc hqu =>
    have ⟨hp, hr⟩ := List.forall_mem_cons.mp (hqu ▸ hq.immQ)
    exact { hq with
      immQ := hr
      immG := List.forall_mem_singleton.mpr hp
      firedD := nofun, firedR := nofun, loadArm := nofun, loadFresh := nofun }
  case iter =>
    -- loading immediate producers takes no time, so it ends before the timed read it starts can fire
    have hm : maxUntil s.now (s.gens ++ s.queue) = s.now :=
      maxUntil_imm _ _ (List.forall_mem_append.mpr ⟨hq.immG, hq.immQ⟩)
    exact Q_checkJoin { hq with
      immQ := nofun, immG := nofun
      immC := fun g h => by cases h; rfl
      armed := fun g h _ => by cases h; exact Nat.add_le_add_right hq.lastLe _
      firedD := nofun, firedR := nofun
      noCancel := by simp [gstate, iterCore]
      loadArm := fun u g hu h _ => by cases h; cases hu; have := hq.tpos; simp only [hm]; omega
      loadFresh := fun _ _ => by simp [gstate, iterCore] }
  case flush g hpc hg hst =>
    -- the call follows the time-out with no submission in between; nothing else leads to it
    exact { hq with
      firedD := nofun, loadArm := nofun, loadFresh := nofun
      firedR := fun _ => by
        rcases hst with hst | hst
        · exact hq.firedD hpc (by simp [gstate, hg, hst])
        · exact absurd (by simp [gstate, hg, hst]) hq.noCancel }
  case done =>
    exact { hq with
      firedD := nofun, firedR := nofun, loadArm := nofun, loadFresh := nofun, noForceF := nofun
      startsQuiet := hq.starts_of fun t a h => by simpa [setEvent] using h }
  case call hpc _ =>
    -- the one place a call starts: every submission so far is at least `T` old
    exact { hq with
      firedD := nofun, firedR := nofun, loadArm := nofun, loadFresh := nofun
      startsQuiet := fun t a h => by
        rcases List.mem_append.mp h with h | h
        · exact hq.startsQuiet t a h
        · cases List.mem_singleton.mp h
          exact ⟨Nat.le_refl _, fun b hb => .inl (Nat.le_trans (Nat.add_le_add_right (hq.subsLe b hb) _) (hq.firedR hpc))⟩ }
  -- `got`, `await`, `sleep`: to a program counter of which no clause speaks
  all_goals exact { hq with firedD := nofun, firedR := nofun, loadArm := nofun, loadFresh := nofun }

theorem Q_fire {s s' : St} (hq : Q s) (hf : Fire s s') : Q s' := by
  cases hf
  case timeout g hg hst hpc hdl hl =>
    exact { hq with
      immC := fun g' h => by cases h; exact hq.immC g hg
      armed := fun g' h hp => by cases h; cases hp
      -- the timed read was armed `T` after the latest submission
      firedD := fun _ _ => Nat.le_trans (hq.armed g hg hst) hdl
      firedR := fun hp => hq.firedR (by simp only [] at hp; split at hp <;> simp_all)
      noCancel := by simp [gstate]
      loadArm := fun u g' _ h hp => by cases h; cases hp
      -- and it does not fire while loading: loading ends first
      loadFresh := fun u hu => by
        have hu' : s.pc = Pc.loading u := by simp only [] at hu; split at hu <;> simp_all
        exact absurd (hl u hu') (Nat.not_le.mpr (hq.loadArm u g hu' hg hst)) }
  case loaded u hpc =>
    exact { hq with
      firedD := fun _ ht => absurd ht (hq.loadFresh u hpc)
      firedR := nofun, loadArm := nofun, loadFresh := nofun }
  case capLoaded => exact { hq with immG := nofun, firedD := nofun, firedR := nofun, loadArm := nofun, loadFresh := nofun }
  case finOk =>
    exact { hq with
      firedD := nofun, firedR := nofun, loadArm := nofun, loadFresh := nofun, noForceF := nofun
      startsQuiet := hq.starts_of fun t a h => by simpa [setEvent] using h }
  case finFail =>
    exact { hq with
      immG := nofun, firedD := nofun, firedR := nofun, loadArm := nofun, loadFresh := nofun
      startsQuiet := hq.starts_of fun t a h => by simpa using h }

theorem Q_now (s : St) (n : Nat) (b : Bool) (hq : Q s) (hn : s.now ≤ n) : Q { s with now := n, tie := b } :=
  { hq with
    firedD := fun h1 h2 => Nat.le_trans (hq.firedD h1 h2) hn
    firedR := fun h1 => Nat.le_trans (hq.firedR h1) hn
    lastLe := Nat.le_trans hq.lastLe hn
    startsQuiet := fun t a h => (hq.startsQuiet t a h).imp_left (Nat.le_trans · hn) }

theorem Q_stable : Stable Q := ⟨fun _ _ => Q_step, fun _ _ => Q_fire, fun s t b => Q_now s t b⟩

theorem Q_zstep (s s' : St) (hk : K s) (hq : Q s) (hz : zstep s = some s') : Q s' := Q_step hq (zstep_step hz)

theorem Q_fireTimed (s : St) (when kind : Nat) (hk : K s) (hq : Q s) (hn : nextTimed s = some (when, kind)) :
    Q (fireTimed s when kind) := Q_stable.fireTimed hn hq

theorem KQ_advance : ∀ (fuel t : Nat) (strict : Bool) (s : St), K s → Q s →
    K (advance fuel t strict s) ∧ Q (advance fuel t strict s) :=
  fun fuel t strict s hk hq => ⟨advance_K fuel t strict s hk, Q_stable.advance fuel t strict s hq⟩

theorem KQ_arrive (s : St) (t : Nat) (hk : K s) (hq : Q s) : K (arrive s t) ∧ Q (arrive s t) :=
  ⟨arrive_K s t hk, Q_stable.arrive s t hq⟩

theorem Q_put {p : Producer} {s s' : St} (hk : K s) (hq : Q s) (hi : InputOk s) (hp0 : pdur p = 0)
    (hp : Put p false s s') : Q s' := by
  have hsubs : ∀ a ∈ s.subTimes ++ [s.now], a ≤ s.now :=
    forall_mem_snoc (fun a ha => Nat.le_trans (hq.subsLe a ha) hq.lastLe) (Nat.le_refl _)
  have hstarts : ∀ t a, Out.start t a ∈ s.outs → t ≤ s.now ∧ ∀ b ∈ s.subTimes ++ [s.now], b + s.T ≤ t ∨ t ≤ b :=
    fun t a h => have ⟨h1, h2⟩ := hq.startsQuiet t a h; ⟨h1, forall_mem_snoc h2 (.inr h1)⟩
  -- no call is about to start: the daemon is at rest
  have hD : s.pc = Pc.decide → gstate s ≠ some GState.timedout := fun hpc ht => by
    rcases hi.2.2.2 hpc with h | h
    · rw [h] at ht; cases ht
    · simp [gstate, h] at ht
  cases hp
  case queued hg =>
    exact { hq with
      immQ := forall_mem_snoc hq.immQ hp0
      -- a pending timed read would have taken the producer
      armed := fun g hg' hst => by
        rcases hg with hpc | hg
        · exact absurd (by simp [gstate, show s.getting = some g from hg', hst]) (hk.quietPc (by rw [hpc]; rfl)).2
        · exact absurd hst (hg g hg')
      firedD := fun hpc ht => absurd ht (hD hpc)
      firedR := fun hpc => absurd hpc hi.1
      subsLe := hsubs, lastLe := Nat.le_refl _, startsQuiet := hstarts }
  case captured =>
    exact { hq with
      immC := fun g' h => by cases h; exact hp0
      armed := fun g' h hp => by cases h; cases hp
      firedD := fun _ ht => by simp [gstate] at ht
      firedR := fun hp => absurd (by simp only [] at hp; split at hp <;> simp_all) hi.1
      noCancel := by simp [gstate]
      loadArm := fun u g' _ h hp => by cases h; cases hp
      loadFresh := fun _ _ => by simp [gstate]
      subsLe := hsubs, lastLe := Nat.le_refl _, startsQuiet := hstarts }

/-- the programs the quiet-period clause speaks about: immediate arguments, no forced flush, no shutdown, no foreign thread -/
def QuietIn : In → Prop
  | .submit _ p => pdur p = 0
  | .wait _ _ cancel => cancel = false
  | _ => False

theorem QuietIn_noShutdown (i : In) (h : QuietIn i) : i.isShutdown = false := by
  cases i <;> simp_all [QuietIn, In.isShutdown]

theorem QI_input {i : In} {s s' : St} (hk : K s) (hq : Q s) (hi : InputOk s) (hin : QuietIn i) (h : Input i s s') :
    Q s' ∧ InputOk s' := by
  cases h
  case submit hp => exact ⟨Q_put hk hq hi hin hp, InputOk_put hi hp⟩
  case pass t id c _ =>
    have hc : (Waiter.mk id c s.submitted.length).cancel = false := hin
    exact ⟨passJoin_inv (fun _ _ => Q_pass hc) hq, passJoin_inv (fun _ _ => InputOk_pass hc) hi⟩
  case join => exact ⟨{ hq with noForceJ := forall_mem_snoc hq.noForceJ hin }, hi⟩
  all_goals cases hin

theorem KQI_applyIn (s : St) (i : In) (hk : K s) (hq : Q s) (hi : InputOk s) (hin : QuietIn i) :
    K (applyIn s i) ∧ Q (applyIn s i) ∧ InputOk (applyIn s i) :=
  have ⟨hk1, hq1⟩ := KQ_arrive s i.time hk hq
  have h := applyIn_input (s := s) (QuietIn_noShutdown i hin)
  ⟨K_input hk1 h, QI_input hk1 hq1 (arrive_InputOk s i.time hk hi) hin h⟩

theorem KQI_foldl : ∀ (ins : List In) (s : St), K s → Q s → InputOk s → (∀ i ∈ ins, QuietIn i) →
    K (ins.foldl applyIn s) ∧ Q (ins.foldl applyIn s) ∧ InputOk (ins.foldl applyIn s) :=
  fun ins _ hk hq hi hin => List.foldlRecOn ins applyIn (motive := fun s => K s ∧ Q s ∧ InputOk s) ⟨hk, hq, hi⟩
    fun s h i hi => KQI_applyIn s i h.1 h.2.1 h.2.2 (hin i hi)

theorem Q_fresh (s : St) (h : Fresh s) (ht : 0 < s.T) (hl : s.lastSub = 0) (hs : s.subTimes = []) : Q s := by
  unfold Fresh at h
  constructor <;> simp_all [gstate]

theorem InputOk_fresh (s : St) (h : Fresh s) : InputOk s := by
  unfold Fresh at h
  simp [InputOk, h]

end AiutiVerif.Buffer
