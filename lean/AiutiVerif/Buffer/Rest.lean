import AiutiVerif.Buffer.InvStep
import AiutiVerif.Buffer.RestDef
/-!
# The buffer machine cannot stop with somebody blocked   (C07 "wait() always returns", C03 "eventually")

`AtRest s`: no zero-time step of the background task is enabled and no timed event is pending —
the machine will not move again unless a new input arrives.  For **every** program without a shutdown
and without a foreign `fclear` whose `fput` is still to come, such a state is the background task back
at `await q.get()` with an empty queue, the completion flag set, and **no `wait()` blocked** — neither
in `q.join()` nor on the flag.  Together with `C03_all_delivered_at_rest` this is deadlock-freedom: a
`wait()` does not return, or an argument is not delivered, only if the machine keeps moving for ever
(the wrapped function keeps failing, a producer never ends), never because it stops short.

The invariant `L` is kept by every move and, where `K` holds, by every input.
-/
namespace AiutiVerif.Buffer

variable {fc : Bool}

/-- `fc`: a foreign thread's `event.clear()` is outstanding (`stepFc`, `openClear`) -/
structure L0 (fc : Bool) (s : St) : Prop where
  /-- the timed read exists from the first iteration on -/
  getSome : s.getting = none → s.pc = Pc.idle ∨ s.pc = Pc.iter
  /-- the background task awaits the timed read only while it is pending -/
  awaitPending : s.pc = Pc.awaitget → gstate s = some GState.pending
  /-- between rounds the flag is clear only if a producer is queued — unless a foreign thread has
  cleared it and its producer is still to come (`fc`) -/
  clearQueued : fc = false → s.event = false → (s.pc = Pc.idle ∨ s.pc = Pc.endround) → s.queue ≠ []

/-- `q.join()` blocks only while the unfinished count is positive (or its zero is about to be
noticed: the callbacks of `task_done()` run in the `iter` step) -/
def JB (s : St) : Prop := s.joiners ≠ [] → s.unfinished ≠ 0 ∨ s.pc = Pc.iter

/-- Two parts because they travel differently through the `iter` step: `L0` holds all along, whereas `JB` fails in
between (count zero, `pc` already `loading`, joiners not yet released) and `checkJoin` as a whole establishes it
afresh, from `L0` alone (`L_checkJoin`). -/
def L (fc : Bool) (s : St) : Prop := L0 fc s ∧ JB s

def AtRest (s : St) : Prop := zstep s = none ∧ nextTimed s = none

/-- the flag the driver prints (`rest=`) is `AtRest` -/
theorem atRest_iff (s : St) : atRest s = true ↔ AtRest s := by
  unfold atRest AtRest
  simp [Option.isNone_iff_eq_none]

theorem L_clock (s : St) (n : Nat) (b : Bool) (h : L fc s) : L fc { s with now := n, tie := b } :=
  ⟨{ h.1 with }, h.2⟩

theorem L_now (s : St) (n : Nat) (h : L fc s) : L fc { s with now := n } := L_clock s n s.tie h

theorem L0_pass {w : Waiter} {s s' : St} (h : L0 fc s) (hp : Pass w s s') : L0 fc s' := by
  cases hp
  case cancel =>
    -- the daemon stops awaiting the timed read the moment it is cancelled
    obtain ⟨a, b, d⟩ := h
    refine ⟨nofun, ?_, ?_⟩
    · intro hpc; simp only [] at hpc; split at hpc <;> simp_all
    · intro hfc he hpc; simp only [] at hpc; split at hpc <;> simp_all
  all_goals exact { h with }

theorem JB_pass {w : Waiter} {s s' : St} (h : JB s) (hp : Pass w s s') : JB s' := by
  cases hp
  case cancel => intro hj; exact (h hj).imp id fun hpc => by simp [hpc]
  all_goals exact h

theorem L_checkJoin {s : St} (h : L0 fc s) : L fc (checkJoin s) :=
  ⟨checkJoin_inv (fun _ _ _ _ => L0_pass) (fun _ => { h with }) (fun _ => h),
   fun hj => .inl (checkJoin_inv (P := fun x => x.joiners ≠ [] → x.unfinished ≠ 0)
     (fun _ _ _ _ h hp => by cases hp <;> exact h) (fun _ hj => absurd rfl hj) (fun hu _ => hu) hj)⟩

theorem L_step {s s' : St} (h : L fc s) (hz : ZStep s s') : L fc s' := by
  obtain ⟨⟨a, b, d⟩, c⟩ := h
  cases hz
  case iter => exact L_checkJoin ⟨nofun, nofun, fun _ _ hp => by rcases hp with hp | hp <;> cases hp⟩
  -- the unfinished count falls only in a move that leads to `iter`, the other alternative of `JB`
  all_goals refine ⟨⟨?_, ?_, ?_⟩, ?_⟩ <;> simp_all [JB, gstate, setEvent]

theorem L_fire {s s' : St} (h : L fc s) (hf : Fire s s') : L fc s' := by
  obtain ⟨⟨a, b, d⟩, c⟩ := h
  cases hf
  case timeout =>
    refine ⟨⟨nofun, ?_, ?_⟩, ?_⟩
    · intro hp; simp only [] at hp; split at hp <;> simp_all
    · intro hfc he hp; simp only [] at hp; split at hp <;> simp_all
    · intro hj; exact (c hj).imp id fun hp => by simp [hp]
  all_goals refine ⟨⟨?_, ?_, ?_⟩, ?_⟩ <;> simp_all [JB, setEvent]

theorem L_stable : Stable (L fc) := ⟨fun _ _ => L_step, fun _ _ => L_fire, fun s t b h _ => L_clock s t b h⟩

theorem L_zstep (s s' : St) (_hk : K s) (h : L fc s) (hz : zstep s = some s') : L fc s' := L_step h (zstep_step hz)

theorem L_fireTimed (s : St) (when kind : Nat) (h : L fc s) (hn : nextTimed s = some (when, kind)) :
    L fc (fireTimed s when kind) := L_stable.fireTimed hn h

theorem L_put {p : Producer} {ev : Bool} {s s' : St} (hk : K s) (h : L fc s) (hp : Put p ev s s') : L false s' := by
  obtain ⟨⟨a, b, d⟩, c⟩ := h
  cases hp
  case queued => exact ⟨⟨a, b, fun _ _ _ => by simp⟩, fun _ => .inl (by simp)⟩
  case captured g hpc hg hst =>
    have hgs : gstate s = some GState.pending := by simp [gstate, hg, hst]
    refine ⟨⟨nofun, ?_, ?_⟩, fun _ => .inl (by simp)⟩
    · intro hp; simp only [] at hp; split at hp <;> simp_all
    · -- between rounds no timed read is pending (`K.quietPc`)
      intro _ _ hp
      simp only [] at hp
      split at hp
      · rcases hp with hp | hp <;> cases hp
      · rcases hp with hp | hp
        · exact absurd hp hpc
        · exact absurd hgs (hk.quietPc (by rw [hp]; rfl)).2

theorem L_weaken (s : St) (fc' : Bool) (h : L false s) : L fc' s :=
  ⟨⟨h.1.getSome, h.1.awaitPending, fun _ => h.1.clearQueued rfl⟩, h.2⟩

/-- is a foreign thread's `event.clear()` outstanding — its producer not yet put, and no other
submission made since?  (Any submission re-establishes "flag clear ⇒ something is queued".) -/
def stepFc (fc : Bool) : In → Bool
  | .fclear _ => true
  | .submit _ _ => false
  | .fput _ _ => false
  | _ => fc

def openClear (ins : List In) : Bool := ins.foldl stepFc false

theorem L_input {i : In} {s s' : St} (hk : K s) (h : L fc s) (hi : Input i s s') : L (stepFc fc i) s' := by
  cases hi
  case submit hp | fput hp => exact L_put hk h hp
  case pass => exact ⟨passJoin_inv (fun _ _ => L0_pass) h.1, passJoin_inv (fun _ _ => JB_pass) h.2⟩
  case join hu => exact ⟨{ h.1 with }, fun _ => .inl hu⟩
  case fclear => exact ⟨⟨h.1.getSome, h.1.awaitPending, nofun⟩, h.2⟩

theorem KL_stable : Stable (fun s => K s ∧ L fc s) :=
  K_stable.and (fun _ _ _ => L_step) (fun _ _ _ => L_fire) L_stable.clock

theorem KL_arrive (s : St) (t : Nat) (hk : K s) (h : L fc s) : K (arrive s t) ∧ L fc (arrive s t) :=
  KL_stable.arrive s t ⟨hk, h⟩

theorem KL_applyIn (s : St) (i : In) (hk : K s) (h : L fc s) (hsd : i.isShutdown = false) :
    K (applyIn s i) ∧ L (stepFc fc i) (applyIn s i) :=
  have ⟨hk1, h1⟩ := KL_arrive s i.time hk h
  ⟨K_input hk1 (applyIn_input hsd), L_input hk1 h1 (applyIn_input hsd)⟩

theorem KL_foldl : ∀ (ins : List In) (fc : Bool) (s : St), K s → L fc s → (∀ i ∈ ins, i.isShutdown = false) →
    K (ins.foldl applyIn s) ∧ L (ins.foldl stepFc fc) (ins.foldl applyIn s) := by
  intro ins
  induction ins with
  | nil => intro fc s hk h _; exact ⟨hk, h⟩
  | cons i r ih =>
    intro fc s hk h hq
    obtain ⟨a, b⟩ := KL_applyIn s i hk h (hq i (by simp))
    exact ih _ _ a b (fun j hj => hq j (List.mem_cons_of_mem _ hj))

theorem KL_runProgram (s : St) (ins : List In) (hk : K s) (h : L false s) (hq : ∀ i ∈ ins, i.isShutdown = false) :
    K (runProgram s ins) ∧ L (openClear ins) (runProgram s ins) :=
  KL_stable.advance _ _ _ _ (KL_foldl ins false s hk h hq)

theorem L_fresh (s : St) (h : Fresh s) : L fc s := by
  unfold Fresh at h
  refine ⟨⟨?_, ?_, ?_⟩, ?_⟩ <;> simp_all [JB]

theorem rest_idle (s : St) (hk : K s) (h : L fc s) (hr : AtRest s) : s.pc = Pc.idle ∧ s.queue = [] := by
  obtain ⟨hp, h1, h2, h3⟩ := nextTimed_none hk.alive hr.2
  rcases zstep_none hk.alive hr.1 with h0 | hpc | ⟨hpc, hg⟩ | ⟨u, hpc⟩ | ⟨u, hpc⟩ | ⟨u, ok, hpc⟩
  · exact h0
  · -- the daemon awaits the timed read only while it is pending, and then its time-out is to come
    cases hg : s.getting with
    | none => simpa [gstate, hg] using h.1.awaitPending hpc
    | some g => exact absurd (hp g hg (by simpa [gstate, hg] using h.1.awaitPending hpc)) (by simp [hpc])
  · rcases h.1.getSome hg with e | e <;> simp [hpc] at e
  · exact absurd hpc (h1 u)
  · exact absurd hpc (h2 u)
  · exact absurd hpc (h3 u ok)

theorem rest_shape (s : St) (hk : K s) (h : L false s) (hr : AtRest s) :
    s.pc = Pc.idle ∧ s.queue = [] ∧ s.unfinished = 0 ∧ s.event = true ∧ s.joiners = [] ∧ s.flaggers = [] := by
  obtain ⟨hpc, hq⟩ := rest_idle s hk h hr
  have hu : s.unfinished = 0 := by simpa [hq, (hk.roundEnd (hpc ▸ rfl)).2.2.2.1] using hk.unfin
  have hev : s.event = true := eq_true_of_ne_false fun he => h.1.clearQueued rfl he (.inl hpc) hq
  exact ⟨hpc, hq, hu, hev,
    Classical.byContradiction fun hj => by rcases h.2 hj with e | e <;> simp [hu, hpc] at e,
    Classical.byContradiction fun hf => by simpa [hev] using hk.flagEv hf⟩

end AiutiVerif.Buffer
