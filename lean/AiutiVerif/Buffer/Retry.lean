import AiutiVerif.Buffer.InvStep
/-!
# A failed call's arguments are offered again   (C03 "kept and offered again until a call succeeds")

`retry outs` reads the output stream: it is `none` as soon as a call that follows a failed call does
not carry all of the failed call's arguments; otherwise it gives (the arguments of the call in
flight, the arguments of the last call if it failed and no call has started since).  The invariant
`Rr` ties that reading to the state (the failed call's arguments are still in the round's input
set) and is kept by every move of the machine and every input; hence `retry` is never `none`, for every
program without a shutdown.
-/
namespace AiutiVerif.Buffer

abbrev RSt := Option (Option (List Nat) × Option (List Nat))

def stepRetry (acc : RSt) : Out → RSt
  | .start _ a =>
    match acc with
    | some (_, some f) => if f.all (fun x => a.contains x) then some (some a, none) else none
    | some (_, none) => some (some a, none)
    | none => none
  | .fin _ true => acc.map fun _ => (none, none)
  | .fin _ false => acc.map fun p => (none, p.1)
  | .waitRet _ _ => acc

def retry (outs : List Out) : RSt := outs.foldl stepRetry (some (none, none))

theorem retry_snoc (outs : List Out) (o : Out) : retry (outs ++ [o]) = stepRetry (retry outs) o := by
  simp [retry, List.foldl_append]

theorem retry_waits (ws : List Waiter) (t : Nat) (outs : List Out) :
    retry (outs ++ ws.map fun w => Out.waitRet w.id t) = retry outs :=
  foldl_waits _ (fun _ _ _ => rfl) ..

/-- the stream reading agrees with the state (a structure, so that `{ h with }` re-types it at a record update that
touches none of the fields it reads) -/
structure Rr (s : St) : Prop where
  ok : ∃ cur lf, retry s.outs = some (cur, lf) ∧
        cur = (if s.pc.isRunning then some (sortNat s.inputs) else none) ∧
        ∀ f, lf = some f → ∀ x ∈ f, x ∈ s.inputs

theorem Rr.same {s s' : St} (h : Rr s) (e1 : retry s'.outs = retry s.outs)
    (e2 : (if s'.pc.isRunning then some (sortNat s'.inputs) else none) =
          if s.pc.isRunning then some (sortNat s.inputs) else none)
    (e3 : ∀ x ∈ s.inputs, x ∈ s'.inputs) : Rr s' :=
  have ⟨cur, lf, a, b, c⟩ := h.ok
  ⟨cur, lf, e1 ▸ a, e2 ▸ b, fun f hf x hx => e3 x (c f hf x hx)⟩

theorem Rr_unwait {s s' : St} (h : Rr s) (e1 : s'.outs = s.outs) (e2 : s'.pc = if s.pc = Pc.awaitget then Pc.decide else s.pc)
    (e3 : s'.inputs = s.inputs) : Rr s' :=
  h.same (by rw [e1]) (by rw [e2, e3]; split <;> simp_all [Pc.isRunning]) (by rw [e3]; exact fun _ h => h)

theorem Rr_pass {w : Waiter} {s s' : St} (h : Rr s) (hp : Pass w s s') : Rr s' := by
  cases hp
  case cancel => exact Rr_unwait h rfl rfl rfl
  case ret => exact h.same (retry_waits [w] s.now s.outs) rfl fun _ h => h
  case block => exact { h with }

theorem Rr_step {s s' : St} (h : Rr s) (hz : ZStep s s') : Rr s' := by
  cases hz
  case iter hpc =>
    have h1 : Rr (iterCore s) := h.same rfl (by simp [hpc, iterCore, Pc.isRunning]) fun _ h => h
    exact checkJoin_inv (fun _ _ _ _ => Rr_pass) (fun _ => { h1 with }) (fun _ => h1)
  case done hpc _ => exact h.same (retry_waits ..) (by simp [hpc, Pc.isRunning]) fun _ h => h
  case call =>
    -- the call carries the whole input set, which still holds the arguments of a failed call
    obtain ⟨cur, lf, a, b, c⟩ := h.ok
    refine ⟨some (sortNat s.inputs), none, ?_, by simp [Pc.isRunning], nofun⟩
    rw [retry_snoc, a]
    cases lf with
    | none => rfl
    | some f =>
      have hall : f.all (fun x => (sortNat s.inputs).contains x) = true := by
        rw [List.all_eq_true]
        intro x hx
        simpa using (mem_sortNat x s.inputs).mpr (c f rfl x hx)
      simp only [stepRetry, hall, if_true]
  all_goals exact h.same rfl (by simp_all [Pc.isRunning]) fun _ h => h

theorem Rr_fire {s s' : St} (h : Rr s) (hf : Fire s s') : Rr s' := by
  cases hf
  case timeout => exact Rr_unwait h rfl rfl rfl
  case loaded u hpc | capLoaded u hpc =>
    exact h.same rfl (by simp [hpc, Pc.isRunning]) fun x hx => (mem_addInputs ..).mpr (.inl hx)
  case finOk =>
    obtain ⟨cur, lf, a, b, c⟩ := h.ok
    refine ⟨none, none, ?_, by simp [Pc.isRunning], nofun⟩
    show retry ((s.outs ++ [Out.fin s.now true]) ++ s.flaggers.map fun w => Out.waitRet w.id s.now) = _
    rw [retry_waits, retry_snoc, a]
    rfl
  case finFail u hpc =>
    -- the failed call's arguments stay in the input set
    obtain ⟨cur, lf, a, b, c⟩ := h.ok
    have hcur : cur = some (sortNat s.inputs) := by rw [b]; simp [hpc, Pc.isRunning]
    refine ⟨none, cur, ?_, by simp [Pc.isRunning], fun f hf x hx => ?_⟩
    · show retry (s.outs ++ [Out.fin s.now false]) = _
      rw [retry_snoc, a]
      rfl
    · cases hcur.symm.trans hf
      exact (mem_sortNat x s.inputs).mp hx

theorem Rr_stable : Stable Rr := ⟨fun _ _ => Rr_step, fun _ _ => Rr_fire, fun _ _ _ h _ => { h with }⟩

theorem Rr_put {p : Producer} {ev : Bool} {s s' : St} (h : Rr s) (hp : Put p ev s s') : Rr s' := by
  cases hp
  case queued => exact { h with }
  case captured => exact Rr_unwait h rfl rfl rfl

theorem Rr_input {i : In} {s s' : St} (h : Rr s) (hi : Input i s s') : Rr s' := by
  cases hi
  case submit hp | fput hp => exact Rr_put h hp
  case pass => exact passJoin_inv (fun _ _ => Rr_pass) h
  all_goals exact { h with }

theorem Rr_run (ins : List In) (s : St) (h : Rr s) (hsd : ∀ i ∈ ins, i.isShutdown = false) :
    Rr (ins.foldl applyIn s) ∧ Rr (runProgram s ins) :=
  Rr_stable.run (ok := fun i => i.isShutdown = false) (fun _ _ _ _ => Rr_input) (fun _ h => h) ins hsd h

theorem Rr_foldl : ∀ (ins : List In) (s : St), Rr s → (∀ i ∈ ins, i.isShutdown = false) → Rr (ins.foldl applyIn s) :=
  fun ins s h hsd => (Rr_run ins s h hsd).1

theorem Rr_advance : ∀ (fuel t : Nat) (strict : Bool) (s : St), Rr s → Rr (advance fuel t strict s) :=
  Rr_stable.advance

theorem Rr_fresh (s : St) (h : Fresh s) : Rr s := by
  unfold Fresh at h
  exact ⟨none, none, by simp [h, retry], by simp [h, Pc.isRunning], nofun⟩

end AiutiVerif.Buffer
