import AiutiVerif.Buffer.Once
import AiutiVerif.Buffer.Props
import AiutiVerif.Buffer.Burst
import AiutiVerif.Buffer.Retry
/-!
# Buffer property theorems at run level (C03, C07, C08)

For **every** freshly constructed buffer (any timeout, any outcome script of the wrapped
function), **every** list of timed inputs without a shutdown (submissions of producers of every
kind — immediate, slow, failing at any position — and `wait(cancel=…)` calls), after every prefix
of the inputs and after everything has drained.  The shutdown clause of C07 is false of the code
(finding F5, `C07_counterexample_shutdown_*` in `Props.lean`).
-/
namespace AiutiVerif.Buffer

def noShutdown (ins : List In) : Prop := ∀ i ∈ ins, i.isShutdown = false

/-! `tickN n (ins.foldl applyIn s0)`: a fresh buffer after the inputs `ins` and `n` moves of its own - after every
prefix of a program (`n = 0`: a prefix of a program without shutdown is one), after the drain
(`C07_runProgram_is_ticks`), and whatever comes if it is left alone. -/

/-- the drain of `runProgram` is such a run of moves (whether it ended at rest the driver reports as `rest=`) -/
theorem C07_runProgram_is_ticks (s0 : St) (ins : List In) : ∃ k, runProgram s0 ins = tickN k (ins.foldl applyIn s0) :=
  advance_is_ticks fuelDefault horizon false _

theorem KL_after {s0 : St} {ins : List In} (hf : Fresh s0) (hn : noShutdown ins) (n : Nat) :
    K (tickN n (ins.foldl applyIn s0)) ∧ L (openClear ins) (tickN n (ins.foldl applyIn s0)) :=
  KL_stable.tickN n _ (KL_foldl ins false s0 (K_fresh s0 hf) (L_fresh s0 hf) hn)

theorem K.all_delivered {s : St} (h : K s) (hpc : s.pc = Pc.idle) (hq : s.queue = []) :
    ∀ x ∈ s.submitted, x ∈ (deliveredOf s.outs).1 := fun x hx => by
  obtain ⟨hg, hp, hc, _⟩ := h.roundEnd (by rw [hpc]; rfl)
  have := h.conserve x hx
  simpa [Held, hq, hg, hc, hp, h.idleInputs (.inl hpc), flat, h.outsDeliv] using this

theorem rest_after {s0 : St} {ins : List In} (hf : Fresh s0) (hn : noShutdown ins) (hc : openClear ins = false) (n : Nat) :
    let s := tickN n (ins.foldl applyIn s0)
    AtRest s →
      (∀ x ∈ s.submitted, x ∈ (deliveredOf s.outs).1) ∧ (∀ id ∈ waitsOf ins, id ∈ waitIds s.outs) ∧
      s.joiners = [] ∧ s.flaggers = [] ∧ s.event = true ∧ s.pc = Pc.idle ∧ s.queue = [] ∧ s.unfinished = 0 := by
  intro s hr
  obtain ⟨hk, hl⟩ := KL_after hf hn n
  rw [hc] at hl
  obtain ⟨hpc, hq, hu, hev, hj, hfl⟩ := rest_shape s hk hl hr
  refine ⟨hk.all_delivered hpc hq, fun id hid => ?_, hj, hfl, hev, hpc, hq, hu⟩
  -- the `wait()` is accounted for (`Sub`), and nobody is blocked
  have : id ∈ wids s := waits_after s0 ins hn n id hid
  rw [hk.outsWaits]
  simpa [wids, hj, hfl] using this

/-! Inputs include the two halves of a **foreign thread's** submission, `fclear` (the other thread
clears the completion flag, at any instant) and `fput` (its producer is put on the queue by a loop
callback, later): every theorem below that does not assume `QuietIn` holds for programs containing them.  They speak of the
code from commit `30ffe8c` on (finding F10), in which the daemon ends its round without *reading the
shared flag*: a foreign `clear` right after a successful call would falsify that reading. -/

/-- **Conservation.** Every element a submitted producer yields before it ends or fails is, at
every instant, in one of the places the code keeps it — still queued, among the loaders of the
next iteration, captured by the timed read, being loaded, in the round's input set — or has
been delivered by a successful call; and nothing is ever in any of those places that was not
submitted. -/
theorem C03_conservation (s0 : St) (hf : Fresh s0) (ins : List In) (hn : noShutdown ins) :
    let s := ins.foldl applyIn s0
    (∀ x ∈ s.submitted, Held s x) ∧ (∀ x, Held s x → x ∈ s.submitted) := by
  have h := foldl_applyIn_K ins s0 (K_fresh s0 hf) hn
  exact ⟨h.conserve, h.only⟩

theorem C03_conservation_final (s0 : St) (hf : Fresh s0) (ins : List In) (hn : noShutdown ins) :
    let s := runProgram s0 ins
    (∀ x ∈ s.submitted, Held s x) ∧ (∀ x, Held s x → x ∈ s.submitted) := by
  have h := runProgram_K s0 ins (K_fresh s0 hf) hn
  exact ⟨h.conserve, h.only⟩

/-- **Only what was submitted is delivered**, in terms of the output stream the correspondence
check compares with the real buffer: every argument of every call of the wrapped function that
returned successfully — and of the call in flight — was submitted. -/
theorem C03_only_submitted (s0 : St) (hf : Fresh s0) (ins : List In) (hn : noShutdown ins) :
    let s := runProgram s0 ins
    (∀ x ∈ (deliveredOf s.outs).1, x ∈ s.submitted) ∧
    (∀ a, (deliveredOf s.outs).2 = some a → ∀ x ∈ a, x ∈ s.submitted) := by
  have h := runProgram_K s0 ins (K_fresh s0 hf) hn
  refine ⟨fun x hx => h.only x (by simp [Held, ← h.outsDeliv, hx]), fun a ha x hx => ?_⟩
  have hc := h.outsCur
  rw [ha] at hc
  split at hc <;> cases hc
  exact h.only x (by simp [Held, (mem_sortNat x _).mp hx])

/-- **Exactly once.** If the arguments a program submits (from the loop's own thread or through
foreign `fput`s) are pairwise distinct, no argument is ever passed to two successful calls of the
wrapped function (failed calls do offer their arguments again; `deliveredOf` only collects calls
that returned). -/
theorem C03_exactly_once (s0 : St) (hf : Fresh s0) (ins : List In) (hn : noShutdown ins)
    (hd : (allItems ins).Nodup) : (deliveredOf (runProgram s0 ins).outs).1.Nodup := by
  have h0 : (s0.submitted ++ allItems ins).Nodup := by
    unfold Fresh at hf
    simpa [hf] using hd
  obtain ⟨hk2, hx2⟩ := KX_stable.advance fuelDefault horizon false _ (KX_foldl ins s0 (K_fresh s0 hf) (X_fresh s0 hf) hn h0)
  rw [show runProgram s0 ins = advance fuelDefault horizon false (ins.foldl applyIn s0) from rfl, hk2.outsDeliv]
  exact hx2.delNodup

/-- a failed call is retried with the late arrival: both elements end up in exactly one successful call -/
example : (deliveredOf (runProgram { T := 1024, outcomes := [(512, false), (0, true)] }
    [.submit 1 [(0, some 0)], .submit 500 [(0, some 1)], .submit 1600 [(0, some 2)]]).outs).1 = [0, 1, 2] := by
  decide +kernel

/-- **Everything is delivered once the buffer is at rest**: when the background task is back
at `await q.get()` with an empty queue, every submitted element has been an argument of a call
that returned successfully (in the output stream). -/
theorem C03_all_delivered_at_rest (s0 : St) (hf : Fresh s0) (ins : List In) (hn : noShutdown ins) :
    let s := runProgram s0 ins
    s.pc = Pc.idle → s.queue = [] → ∀ x ∈ s.submitted, x ∈ (deliveredOf s.outs).1 := by
  intro s hpc hq
  exact (runProgram_K s0 ins (K_fresh s0 hf) hn).all_delivered hpc hq

/-- **Arguments of a call that raised are offered again until a call succeeds.**  Read off the output
stream: whenever a call of the wrapped function follows a call that failed, it carries **all** of the
failed call's arguments (and whatever arrived since) - `retry` never becomes `none`; and while a call
has failed and none has started since, its arguments are still in the round's input set. -/
theorem C03_failed_call_is_offered_again (s0 : St) (hf : Fresh s0) (ins : List In) (hn : noShutdown ins) :
    (retry (runProgram s0 ins).outs).isSome = true ∧ (retry (ins.foldl applyIn s0).outs).isSome = true ∧
    ∀ cur f, retry (runProgram s0 ins).outs = some (cur, some f) → ∀ x ∈ f, x ∈ (runProgram s0 ins).inputs := by
  obtain ⟨h1, h2⟩ := Rr_run ins s0 (Rr_fresh s0 hf) hn
  obtain ⟨c1, l1, a1, _, _⟩ := h1.ok
  obtain ⟨c2, l2, a2, _, d2⟩ := h2.ok
  refine ⟨by rw [a2]; rfl, by rw [a1]; rfl, ?_⟩
  intro cur f hr x hx
  rw [a2] at hr
  simp only [Option.some.injEq, Prod.mk.injEq] at hr
  exact d2 f hr.2 x hx

/-- `retry` really rejects a retry that lost an argument, and accepts a superset -/
example : retry [.start 0 [1, 2], .fin 3 false, .start 9 [2]] = none := by decide
example : retry [.start 0 [1, 2], .fin 3 false, .waitRet 7 3, .start 9 [1, 2, 5]] = some (some [1, 2, 5], none) := by decide

/-- **Barrier.** Whenever a `wait()` has returned (the `waitRet` records of the output stream are the
entries of `retLog`, in order), everything submitted before that `wait()` was called has been an
argument of a call of the wrapped function that returned successfully.  Any number of concurrent
waiters, `cancel` or not, empty / failing / slow producers, failing calls. -/
theorem C07_barrier (s0 : St) (hf : Fresh s0) (ins : List In) (hn : noShutdown ins) :
    let s := runProgram s0 ins
    waitIds s.outs = s.retLog.map (·.1) ∧
    ∀ r ∈ s.retLog, ∀ x ∈ s.submitted.take r.2, x ∈ (deliveredOf s.outs).1 := by
  have h := runProgram_K s0 ins (K_fresh s0 hf) hn
  exact ⟨h.outsWaits, fun r hr x hx => by rw [h.outsDeliv]; exact (h.retOk r hr).2 x hx⟩

theorem C07_barrier_prefix (s0 : St) (hf : Fresh s0) (ins : List In) (hn : noShutdown ins) :
    let s := ins.foldl applyIn s0
    waitIds s.outs = s.retLog.map (·.1) ∧
    ∀ r ∈ s.retLog, ∀ x ∈ s.submitted.take r.2, x ∈ (deliveredOf s.outs).1 := by
  have h := foldl_applyIn_K ins s0 (K_fresh s0 hf) hn
  exact ⟨h.outsWaits, fun r hr x hx => by rw [h.outsDeliv]; exact (h.retOk r hr).2 x hx⟩

/-- A `wait()` that is still blocked on the completion flag has everything submitted before it
inside the current round (being loaded, in the input set) or delivered. -/
theorem C07_blocked_waiter_covered (s0 : St) (hf : Fresh s0) (ins : List In) (hn : noShutdown ins) :
    let s := runProgram s0 ins
    ∀ w ∈ s.flaggers, s.event = false ∧ ∀ x ∈ s.submitted.take w.before, InRound s x := by
  intro s w hw
  have h : K s := runProgram_K s0 ins (K_fresh s0 hf) hn
  exact ⟨h.flagEv (List.ne_nil_of_mem hw), (h.flagOk w hw).2⟩

/-- The queue's unfinished count is exactly "queued, or captured by the timed read and not yet
loaded" — what makes `q.join()` the first half of the barrier. -/
theorem C07_unfinished_exact (s0 : St) (hf : Fresh s0) (ins : List In) (hn : noShutdown ins) :
    let s := runProgram s0 ins
    s.unfinished = s.queue.length + (if capOpen s then 1 else 0) :=
  (runProgram_K s0 ins (K_fresh s0 hf) hn).unfin

/-- **Never twice at once, never empty** — over the whole output stream of every program: the
`start` / `fin` records of the wrapped function strictly alternate, the stream says a call is in
flight exactly when the background task is inside the call, and no call ever received an empty set. -/
theorem C08_serial_nonempty (s0 : St) (hf : Fresh s0) (ins : List In) (hn : noShutdown ins) :
    let s := runProgram s0 ins
    serial s.outs = some s.pc.isRunning ∧ ∀ t a, Out.start t a ∈ s.outs → a ≠ [] := by
  have h := runProgram_K s0 ins (K_fresh s0 hf) hn
  exact ⟨h.serialOk, h.startsOk⟩

theorem C08_serial_nonempty_prefix (s0 : St) (hf : Fresh s0) (ins : List In) (hn : noShutdown ins) :
    let s := ins.foldl applyIn s0
    serial s.outs = some s.pc.isRunning ∧ ∀ t a, Out.start t a ∈ s.outs → a ≠ [] := by
  have h := foldl_applyIn_K ins s0 (K_fresh s0 hf) hn
  exact ⟨h.serialOk, h.startsOk⟩

theorem Q_after {s0 : St} {ins : List In} (hf : Fresh s0) (ht : 0 < s0.T) (hl : s0.lastSub = 0) (hs : s0.subTimes = [])
    (hin : ∀ i ∈ ins, QuietIn i) : Q (ins.foldl applyIn s0) ∧ Q (runProgram s0 ins) :=
  have ⟨hk, hq, _⟩ := KQI_foldl ins s0 (K_fresh s0 hf) (Q_fresh s0 hf ht hl hs) (InputOk_fresh s0 hf) hin
  ⟨hq, (KQ_advance fuelDefault horizon false _ hk hq).2⟩

/-- **Quiet period.** For immediately available arguments (plain calls, synchronous iterables), no
forced flush and a positive timeout `T`: whenever the wrapped function is called, at instant `t`, no
submission lies strictly inside `(t - T, t)` (a submission at exactly `t` is a tie, which the property
does not judge).  `subTimes` are the instants at which the submissions were applied.  Function
durations shorter and longer than `T`, failing calls and their retries included. -/
theorem C08_quiet_period (s0 : St) (hf : Fresh s0) (ht : 0 < s0.T) (hl : s0.lastSub = 0) (hs : s0.subTimes = [])
    (ins : List In) (hin : ∀ i ∈ ins, QuietIn i) :
    let s := runProgram s0 ins
    ∀ t a, Out.start t a ∈ s.outs → ∀ b ∈ s.subTimes, b + s0.T ≤ t ∨ t ≤ b := by
  intro s t a hst b hb
  have := ((Q_after hf ht hl hs hin).2.startsQuiet t a hst).2 b hb
  rwa [runProgram_T s0 ins] at this

theorem C08_quiet_period_prefix (s0 : St) (hf : Fresh s0) (ht : 0 < s0.T) (hl : s0.lastSub = 0) (hs : s0.subTimes = [])
    (ins : List In) (hin : ∀ i ∈ ins, QuietIn i) :
    let s := ins.foldl applyIn s0
    ∀ t a, Out.start t a ∈ s.outs → ∀ b ∈ s.subTimes, b + s0.T ≤ t ∨ t ≤ b := by
  intro s t a hst b hb
  have := ((Q_after hf ht hl hs hin).1.startsQuiet t a hst).2 b hb
  rwa [foldl_applyIn_T ins s0] at this

/-- **A burst is delivered together, in one call that starts only when it has been quiet for `T`.**
For `QuietIn` programs: whenever the background task is about to call the wrapped function, **every
element submitted so far is in the round's input set or has already been delivered**, the latest
submission is at least `T` old, and the next move is the call with exactly that input set.  So the
arguments of a burst (submissions less than `T` apart, arriving while no call is running) cannot be
split over several calls, and the call comes no earlier than `T` after the last of them (that it comes no later is
compared by the differential check). -/
theorem C08_burst_delivered_together (s0 : St) (hf : Fresh s0) (ht : 0 < s0.T) (hl : s0.lastSub = 0)
    (hs : s0.subTimes = []) (ins : List In) (hin : ∀ i ∈ ins, QuietIn i) (n : Nat) :
    let s := tickN n (ins.foldl applyIn s0)
    s.pc = Pc.runfunc →
      s.queue = [] ∧ (∀ x ∈ s.submitted, x ∈ s.inputs ∨ x ∈ s.delivered) ∧ s.lastSub + s.T ≤ s.now ∧
      (s.inputs ≠ [] → ∃ s', tick s = some s' ∧ s'.outs = s.outs ++ [Out.start s.now (sortNat s.inputs)] ∧
        s'.pc.isRunning = true) := by
  intro s hpc
  obtain ⟨hk0, _, hq0, hb0⟩ := all_foldl ins false s0 (K_fresh s0 hf) (L_fresh s0 hf) (Q_fresh s0 hf ht hl hs)
    (InputOk_fresh s0 hf) (B_fresh s0 hf) hin
  obtain ⟨hk, hq, hb⟩ := KQB_tickN n _ hk0 hq0 hb0
  obtain ⟨h1, h2⟩ := runfunc_has_everything _ hk hb hpc
  exact ⟨h1, h2, hq.firedR hpc, runfunc_calls _ hk hpc⟩

/-- a burst 0, 500, 900 with `T = 1024`: one call, at 900 + 1024 -/
example : (runProgram { T := 1024, outcomes := [] }
    [.submit 0 [(0, some 0)], .submit 500 [(0, some 1)], .submit 900 [(0, some 2)]]).outs =
    [.start 1924 [0, 1, 2], .fin 1924 true] := by decide +kernel
example : (runProgram { T := 1024, outcomes := [] }
    [.submit 0 [(0, some 0)], .submit 500 [(0, some 1)], .submit 900 [(0, some 2)]]).subTimes = [0, 500, 900] := by
  decide +kernel

/-- `serial` really rejects overlapping calls (so `C08_serial_nonempty` is not vacuous). -/
example : serial [.start 0 [1], .start 1 [2]] = none := by decide
example : serial [.start 0 [1], .fin 3 true, .waitRet 7 3, .start 9 [2]] = some true := by decide

/-! Deadlock freedom (C07, C03).  `AtRest s`: no zero-time step of the background task is enabled and no timed event is pending: the
buffer will not move again until a new input arrives.  `openClear ins = false`: no foreign thread's
`event.clear()` is still waiting for its `put` (in the code the put is scheduled by the same
`_put` call, so it always follows; any submission after the clear counts). -/

/-- **`wait()` always returns.**  If the buffer has come to rest after a program, every `wait()` the
program issued **has returned**, nobody is blocked, the flag is set and the daemon is back at `await q.get()` with
nothing queued (provided no foreign `clear` is still waiting for its `put`, `openClear`).  So a
`wait()` fails to return only if the machine keeps moving for ever — the wrapped function never
succeeds, a producer never ends — never because it stops with a waiter left behind. -/
theorem C07_wait_always_returns (s0 : St) (hf : Fresh s0) (ins : List In) (hn : noShutdown ins)
    (hc : openClear ins = false) :
    let s := runProgram s0 ins
    AtRest s →
      (∀ id ∈ waitsOf ins, id ∈ waitIds s.outs) ∧ s.joiners = [] ∧ s.flaggers = [] ∧ s.event = true ∧
      s.pc = Pc.idle ∧ s.queue = [] ∧ s.unfinished = 0 := by
  intro s hr
  obtain ⟨k, hk⟩ := C07_runProgram_is_ticks s0 ins
  have := rest_after hf hn hc k (hk ▸ hr)
  rw [← hk] at this
  exact this.2

/-- At every instant of a program (after any prefix of its inputs) at which the buffer is at rest, every `wait()` issued
so far has returned, nobody is blocked and the flag is set. -/
theorem C07_wait_always_returns_prefix (s0 : St) (hf : Fresh s0) (ins : List In) (hn : noShutdown ins)
    (hc : openClear ins = false) :
    let s := ins.foldl applyIn s0
    AtRest s →
      (∀ id ∈ waitsOf ins, id ∈ waitIds s.outs) ∧ s.joiners = [] ∧ s.flaggers = [] ∧ s.event = true := by
  intro s hr
  have ⟨_, h2, h3, h4, h5, _⟩ := rest_after hf hn hc 0 hr
  exact ⟨h2, h3, h4, h5⟩

/-- **Every argument is eventually delivered, unless the buffer runs for ever**: at rest, every
element any producer of the program yielded has been an argument of a call of the wrapped function
that returned successfully.  (No hypothesis on foreign clears: delivery does not depend on the flag.) -/
theorem C03_all_delivered_when_nothing_can_move (s0 : St) (hf : Fresh s0) (ins : List In) (hn : noShutdown ins) :
    let s := runProgram s0 ins
    AtRest s → ∀ x ∈ s.submitted, x ∈ (deliveredOf s.outs).1 := by
  intro s hr
  obtain ⟨hk, hl⟩ := KL_runProgram s0 ins (K_fresh s0 hf) (L_fresh s0 hf) hn
  obtain ⟨hpc, hq⟩ := rest_idle s hk hl hr
  exact C03_all_delivered_at_rest s0 hf ins hn hpc hq

/-- **Left alone, the buffer always comes to rest** — having delivered everything and released every
waiter: after the program, finitely many moves of the machine lead to a state in which nothing can
move, **every element the program submitted has been an argument of a successful call and every
`wait()` it issued has returned**.  This is the "eventually" of C03 and the "always returns once the
wrapped function can succeed" of C07, under the property's provisos - a finite outcome script
(after it, calls succeed) and finite producers cannot express a function that fails for ever or a
producer that never ends - and with no foreign `clear` left without its `put` (`openClear`). -/
theorem C07_C03_left_alone_everything_completes (s0 : St) (hf : Fresh s0) (ins : List In) (hn : noShutdown ins)
    (hc : openClear ins = false) :
    ∃ n, let s := tickN n (ins.foldl applyIn s0)
      AtRest s ∧
      s.submitted = (ins.foldl applyIn s0).submitted ∧
      (∀ x ∈ s.submitted, x ∈ (deliveredOf s.outs).1) ∧
      (∀ id ∈ waitsOf ins, id ∈ waitIds s.outs) ∧
      s.joiners = [] ∧ s.flaggers = [] ∧ s.event = true ∧ s.pc = Pc.idle ∧ s.queue = [] := by
  obtain ⟨n, hr, _⟩ := ticks_reach_rest (ins.foldl applyIn s0) (KL_after hf hn 0).1 (KL_after hf hn 0).2
  have ⟨h1, h2, h3, h4, h5, h6, h7, _⟩ := rest_after hf hn hc n hr
  exact ⟨n, hr, (tickN_frame n _).1, h1, h2, h3, h4, h5, h6, h7⟩

/-- Why the hypothesis on foreign clears: a thread that has cleared the flag and not yet put its
producer leaves a `wait()` blocked (until the put arrives) although the buffer is at rest. -/
theorem C07_open_foreign_clear_blocks :
    let s := runProgram { T := 8, outcomes := [] } [.fclear 1, .wait 2 7 false]
    AtRest s ∧ s.flaggers.map (·.id) = [7] ∧ openClear [.fclear 1, .wait 2 7 false] = true :=
  ⟨(atRest_iff _).mp (by decide +kernel), by decide +kernel, by decide +kernel⟩

/-- a foreign thread clears the flag at the very instant the first call ends (tick 1024), its
producer arrives a little later: nothing is delivered twice, the waits cover what they must -/
def demoForeign : List In :=
  [.submit 0 [(0, some 0)], .fclear 1024, .fput 1030 [(0, some 9)], .wait 1040 5 false]
example : noShutdown demoForeign := by unfold noShutdown; decide
example : (runProgram { T := 1024, outcomes := [] } demoForeign).outs =
    [.start 1024 [0], .fin 1024 true, .start 2054 [9], .fin 2054 true, .waitRet 5 2054] := by decide +kernel

def demoSt : St := { T := 1024, outcomes := [(512, false), (0, true)] }
def demoIns : List In :=
  [.submit 0 [(0, some 0)], .submit 500 [(0, some 1)], .wait 600 7 false, .submit 1600 [(100, some 2), (0, none)],
   .wait 1700 8 false]
example : Fresh demoSt := by simp [Fresh, demoSt]
example : noShutdown demoIns := by unfold noShutdown; decide
example : (runProgram demoSt demoIns).retLog = [(7, 2), (8, 3)] ∧
    (runProgram demoSt demoIns).submitted = [0, 1, 2] ∧ (runProgram demoSt demoIns).pc = Pc.idle ∧
    (deliveredOf (runProgram demoSt demoIns).outs).1 = [0, 1, 2] := by decide +kernel

/-- the demo programs do come to rest, with their foreign clears closed -/
example : AtRest (runProgram demoSt demoIns) ∧ openClear demoIns = false ∧ waitsOf demoIns = [7, 8] :=
  ⟨(atRest_iff _).mp (by decide +kernel), by decide +kernel, by decide +kernel⟩
example : AtRest (runProgram { T := 1024, outcomes := [] } demoForeign) ∧ openClear demoForeign = false :=
  ⟨(atRest_iff _).mp (by decide +kernel), by decide +kernel⟩

/-- the demo program, left alone after its last input, is at rest after 9 moves and not before -/
example : AtRest (tickN 9 (demoIns.foldl applyIn demoSt)) ∧ ¬ AtRest (tickN 8 (demoIns.foldl applyIn demoSt)) := by
  refine ⟨(atRest_iff _).mp (by decide +kernel), fun h => ?_⟩
  have := (atRest_iff _).mpr h
  revert this
  decide +kernel

/-- the burst 0, 500, 900 (`T = 1024`): seven moves after the last submission the daemon is about to call
(`C08_burst_delivered_together` is not vacuous), with the whole burst, at 900 + 1024 -/
def burstIns : List In := [.submit 0 [(0, some 0)], .submit 500 [(0, some 1)], .submit 900 [(0, some 2)]]
example : (∀ i ∈ burstIns, QuietIn i) ∧
    (tickN 7 (burstIns.foldl applyIn { T := 1024, outcomes := [] })).pc = Pc.runfunc ∧
    (tickN 7 (burstIns.foldl applyIn { T := 1024, outcomes := [] })).inputs = [0, 1, 2] ∧
    (tickN 7 (burstIns.foldl applyIn { T := 1024, outcomes := [] })).now = 1924 :=
  ⟨by simp [burstIns, QuietIn, pdur], by decide +kernel, by decide +kernel, by decide +kernel⟩

end AiutiVerif.Buffer
