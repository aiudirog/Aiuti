import AiutiVerif.Buffer.Waits
/-!
# The buffer machine always comes to rest   (C03 "eventually", C07 "wait() always returns")

`ticks_reach_rest`: from **every** state satisfying the invariants — hence after every program without
a shutdown — finitely many `tick`s lead to a state `AtRest`.  Every tick makes a lexicographic measure
smaller (`ZStep.less`; `Fire.less`, given `K`):

1. the failures the wrapped function still has in store (`outcomes` from `ninv` on, plus the call in
   flight if it is going to fail) — the retry loop goes round once per failure;
2. the producers still queued, plus one for a producer captured by the timed read and not yet loaded;
3. the position inside one attempt (`rank`): `iter` > loading > deciding > awaiting the timed read
   > … > `idle`, with "the timed read is still pending" as the more significant digit.

The function failing for ever and a producer that never ends - the property's two provisos - are what a
finite outcome script (after it, calls succeed) and a finite producer cannot express.
-/
namespace AiutiVerif.Buffer

theorem tick_none_iff (s : St) : tick s = none ↔ AtRest s := by
  unfold tick AtRest
  cases zstep s <;> cases nextTimed s <;> simp

def failsLeft (s : St) : Nat := ((s.outcomes.drop s.ninv).filter (fun o => o.2 == false)).length

def m1 (s : St) : Nat :=
  failsLeft s + (match s.pc with | .running _ false => 1 | _ => 0)

def m2 (s : St) : Nat := s.queue.length + (if capOpen s then 1 else 0)

def isPending (s : St) : Bool :=
  match s.getting with
  | some g => g.state == GState.pending
  | none => false

/-- Every move that leaves the timed read alone and does not lead back to `iter` goes down this scale (one that does - a
producer taken, a captured producer loaded, a failed call - pays with `m2` or `m1`); only the order of the values
matters, and the value at `iter` is never asked for (`rank` tests `iter` first). -/
def base : Pc → Nat
  | .iter => 200
  | .loading _ => 9
  | .decide => 8
  | .awaitget => 7
  | .loadcap _ => 7
  | .runfunc => 6
  | .running _ _ => 5
  | .endround => 4
  | .idle => 3

/-- `iter`, where an attempt starts, is on top: 200 exceeds every other value, at most 100 + 9.  Elsewhere "the timed
read is pending" is the more significant digit (100 exceeds every `base`): the end of the timed read lowers the rank
even where it moves the daemon up the scale (`awaitget` to `decide`). -/
def rank (s : St) : Nat :=
  if s.pc = Pc.iter then 200 else (if isPending s then 100 else 0) + base s.pc

def Less (a b : St) : Prop :=
  m1 a < m1 b ∨ (m1 a = m1 b ∧ (m2 a < m2 b ∨ (m2 a = m2 b ∧ rank a < rank b)))

theorem less_of {a b : St} (h1 : m1 a ≤ m1 b) (h2 : m2 a ≤ m2 b) (h3 : rank a < rank b) : Less a b := by
  unfold Less
  omega

theorem less_of_m2 {a b : St} (h1 : m1 a ≤ m1 b) (h2 : m2 a < m2 b) : Less a b := by
  unfold Less
  omega

theorem less_of_m1 {a b : St} (h1 : m1 a < m1 b) : Less a b := Or.inl h1

variable {fc : Bool}

/-- the significant digit of `rank` falls, unless the daemon is at `iter` -/
theorem measure_unpend {s : St} {g : Getting} (hg : s.getting = some g) (hs : g.state = .pending) (st : GState)
    (hst : st ≠ .got ∧ st ≠ .pending) (s' : St)
    (e : s' = { s with getting := some { g with state := st }, pc := if s.pc = Pc.awaitget then Pc.decide else s.pc }) :
    m1 s' = m1 s ∧ m2 s' = m2 s ∧ rank s' ≤ rank s ∧ (s.pc ≠ Pc.iter → rank s' < rank s) := by
  subst e
  by_cases hp : s.pc = Pc.awaitget
  · simp [m1, m2, rank, isPending, failsLeft, capOpen, hp, hg, hs, hst, base]
  · by_cases hi : s.pc = Pc.iter <;> simp [m1, m2, rank, isPending, failsLeft, capOpen, hp, hi, hg, hs, hst]

theorem Pass.measure {w : Waiter} {s s' : St} (hp : Pass w s s') : m1 s' = m1 s ∧ m2 s' = m2 s ∧ rank s' ≤ rank s := by
  cases hp
  case cancel g _ hg hst => have := measure_unpend hg hst .cancelled (by simp) _ rfl; exact ⟨this.1, this.2.1, this.2.2.1⟩
  all_goals exact ⟨rfl, rfl, Nat.le_refl _⟩

theorem measure_checkJoin (s : St) : m1 (checkJoin s) = m1 s ∧ m2 (checkJoin s) = m2 s ∧ rank (checkJoin s) ≤ rank s :=
  checkJoin_inv (P := fun x => m1 x = m1 s ∧ m2 x = m2 s ∧ rank x ≤ rank s)
    (fun _ _ _ _ h hp => ⟨hp.measure.1.trans h.1, hp.measure.2.1.trans h.2.1, Nat.le_trans hp.measure.2.2 h.2.2⟩)
    (fun _ => ⟨rfl, rfl, Nat.le_refl _⟩) (fun _ => ⟨rfl, rfl, Nat.le_refl _⟩)

theorem less_of_pc {s s' : St} (e1 : s'.queue = s.queue) (e2 : s'.getting = s.getting) (h1 : m1 s' ≤ m1 s)
    (hlt : base s'.pc < base s.pc) (hi : s'.pc ≠ Pc.iter) (hi' : s.pc ≠ Pc.iter) : Less s' s := by
  have hp : isPending s' = isPending s := by unfold isPending; rw [e2]
  have h2 : m2 s' = m2 s := by
    unfold m2 capOpen
    rw [e1, e2]
    cases s.getting <;> simp [hi, hi']
  exact less_of h1 (Nat.le_of_eq h2) (by simp [rank, hp, hi, hi', hlt])

theorem failsLeft_step (outcomes : List (Nat × Bool)) (n : Nat) :
    ((outcomes.drop (n + 1)).filter (fun o => o.2 == false)).length +
      (match (outcomes[n]?).getD (0, true) with | (_, false) => 1 | _ => 0) =
    ((outcomes.drop n).filter (fun o => o.2 == false)).length := by
  cases h : outcomes[n]? with
  | none =>
    have hl : outcomes.length ≤ n := List.getElem?_eq_none_iff.mp h
    rw [List.drop_eq_nil_of_le hl, List.drop_eq_nil_of_le (Nat.le_succ_of_le hl)]
    simp
  | some o =>
    rw [drop_of_getElem? h]
    obtain ⟨d, ok⟩ := o
    cases ok <;> simp

theorem ZStep.less {s s' : St} (hz : ZStep s s') : Less s' s := by
  cases hz
  case take p rest hpc hq =>
    refine less_of_m2 (by simp [m1, failsLeft, hpc]) ?_
    simp [m2, capOpen_eq, hq, hpc]
    omega
  case iter hpc =>
    obtain ⟨c1, c2, c3⟩ := measure_checkJoin (iterCore s)
    apply less_of
    · rw [c1]; simp [m1, failsLeft, hpc, iterCore]
    · rw [c2]; simp [m2, capOpen, iterCore]
    · exact Nat.lt_of_le_of_lt c3 (by simp [rank, isPending, base, hpc, iterCore])
  case call hpc _ =>
    -- the failure the call is going to end in, if any, is no longer in store but in flight
    have hf := failsLeft_step s.outcomes s.ninv
    refine less_of_pc rfl rfl ?_ (by simp [hpc, base]) (by simp) (by simp [hpc])
    unfold m1 failsLeft
    simp only [hpc]
    cases ho : (s.outcomes[s.ninv]?).getD (0, true) with
    | mk d ok =>
      rw [ho] at hf
      cases ok <;> simp at hf ⊢ <;> omega
  all_goals exact less_of_pc rfl rfl (by simp_all [m1, failsLeft, setEvent]) (by simp_all [base]) (by simp) (by simp_all)

theorem Fire.less {s s' : St} (hk : K s) (hf : Fire s s') : Less s' s := by
  cases hf
  case timeout g hg hs hp _ _ =>
    have := measure_unpend hg hs .timedout (by simp) _ rfl
    exact less_of (Nat.le_of_eq this.1) (Nat.le_of_eq this.2.1)
      (this.2.2.2 fun hi => hk.iterNotPending hi (by simp [gstate, hg, hs]))
  case capLoaded u hpc =>
    obtain ⟨hgot, _⟩ := hk.capLoad (hpc ▸ rfl)
    refine less_of_m2 (by simp [m1, failsLeft, hpc]) ?_
    simp [m2, capOpen_eq, hgot, hpc]
  case finFail u hpc => exact less_of_m1 (by simp [m1, failsLeft, hpc])
  all_goals exact less_of_pc rfl rfl (by simp_all [m1, failsLeft, setEvent]) (by simp_all [base]) (by simp) (by simp_all)

theorem zstep_less (s s' : St) (hk : K s) (hl : L fc s) (hz : zstep s = some s') : Less s' s := (zstep_step hz).less

theorem fireTimed_less (s : St) (when kind : Nat) (hk : K s) (hn : nextTimed s = some (when, kind)) :
    Less (fireTimed s when kind) s :=
  -- the measure does not read the clock
  show Less _ { s with now := max s.now when } from (fireTimed_fire hn).less (K_now s _ s.tie hk)

theorem tick_less (s s' : St) (hk : K s) (ht : tick s = some s') : Less s' s := by
  rcases tick_cases ht with hz | ⟨w, k, _, hn, rfl⟩
  · exact (zstep_step hz).less
  · exact fireTimed_less s w k hk hn

def mu (s : St) : Nat × Nat × Nat := (m1 s, m2 s, rank s)

theorem less_wf : WellFounded Less :=
  Subrelation.wf (r := InvImage (Prod.Lex (· < ·) (Prod.Lex (· < ·) (· < ·))) mu)
    (fun h => by simpa only [InvImage, mu, Prod.lex_def, Less] using h)
    (InvImage.wf mu (Prod.lex Nat.lt_wfRel (Prod.lex Nat.lt_wfRel Nat.lt_wfRel)).wf)

theorem ticks_reach_rest (s : St) (hk : K s) (hl : L fc s) : ∃ n, AtRest (tickN n s) ∧ K (tickN n s) ∧ L fc (tickN n s) := by
  induction s using less_wf.induction with
  | _ s ih =>
    cases ht : tick s with
    | none => exact ⟨0, (tick_none_iff s).mp ht, hk, hl⟩
    | some s' =>
      have ⟨hk', hl'⟩ := KL_stable.tick ht ⟨hk, hl⟩
      obtain ⟨n, hn⟩ := ih s' (tick_less s s' hk ht) hk' hl'
      exact ⟨n + 1, by rw [tickN_succ_some n s s' ht]; exact hn⟩

theorem tickN_frame : ∀ (n : Nat) (s : St), (tickN n s).submitted = s.submitted ∧ Sub s (tickN n s) :=
  fun n s => ⟨(submitted_stable _).tickN n s rfl, (Sub_stable s).tickN n s (.refl s)⟩

end AiutiVerif.Buffer
