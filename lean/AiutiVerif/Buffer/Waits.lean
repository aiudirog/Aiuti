import AiutiVerif.Buffer.Rest
/-!
# Every `wait()` is accounted for

`wids s`: the ids of the `wait()` calls blocked in `q.join()`, blocked on the flag, or returned.
No move of the machine ever drops one (`Sub`, a preorder kept by every move with no side
condition), and a `wait` input adds its own id; so every `wait()` a program issues is, at every
instant, blocked or returned — and at rest (`rest_shape`) nobody is blocked.
-/
namespace AiutiVerif.Buffer

def wids (s : St) : List Nat := s.joiners.map (·.id) ++ s.flaggers.map (·.id) ++ s.retLog.map (·.1)

def Sub (s s' : St) : Prop := ∀ id ∈ wids s, id ∈ wids s'

theorem Sub.refl (s : St) : Sub s s := fun _ h => h
theorem Sub.trans {a b c : St} (h1 : Sub a b) (h2 : Sub b c) : Sub a c := fun id h => h2 id (h1 id h)

theorem mem_wids (s : St) (id : Nat) : id ∈ wids s ↔
    (∃ w ∈ s.joiners, w.id = id) ∨ (∃ w ∈ s.flaggers, w.id = id) ∨ (∃ r ∈ s.retLog, r.1 = id) := by
  unfold wids
  simp only [List.mem_append, List.mem_map, or_assoc]

theorem Sub.of_subset {s s' : St} (hj : s.joiners ⊆ s'.joiners)
    (hf : ∀ w ∈ s.flaggers, w ∈ s'.flaggers ∨ (w.id, w.before) ∈ s'.retLog) (hr : s.retLog ⊆ s'.retLog) : Sub s s' := by
  intro id h
  rw [mem_wids] at h ⊢
  rcases h with ⟨w, hw, e⟩ | ⟨w, hw, e⟩ | ⟨r, hr', e⟩
  · exact .inl ⟨w, hj hw, e⟩
  · rcases hf w hw with h | h
    · exact .inr (.inl ⟨w, h, e⟩)
    · exact .inr (.inr ⟨_, h, e⟩)
  · exact .inr (.inr ⟨r, hr hr', e⟩)

/-- the shape of `event.set()`, whatever else is updated -/
theorem Sub.of_set {s s' : St} (e1 : s'.joiners = s.joiners)
    (e3 : s'.retLog = s.retLog ++ s.flaggers.map (fun w => (w.id, w.before))) : Sub s s' :=
  .of_subset (by rw [e1]; exact fun _ h => h)
    (fun w hw => .inr (by rw [e3]; exact List.mem_append_right _ (List.mem_map.mpr ⟨w, hw, rfl⟩)))
    (by rw [e3]; exact List.subset_append_left ..)

theorem Sub_setEvent (s : St) : Sub s (setEvent s) := .of_set rfl rfl

theorem Pass.sub {w : Waiter} {s s' : St} (h : Pass w s s') : Sub s s' := by
  cases h
  case cancel => exact .refl _
  case ret => exact .of_subset (fun _ h => h) (fun _ h => .inl h) (List.subset_append_left ..)
  case block => exact .of_subset (fun _ h => h) (fun _ h => .inl (List.mem_append_left _ h)) (fun _ h => h)

theorem Sub_passJoin (s : St) (w : Waiter) : Sub s (passJoin s w) ∧ w.id ∈ wids (passJoin s w) := by
  refine ⟨passJoin_inv (P := Sub s) (fun _ _ h hp => h.trans hp.sub) (.refl s), ?_⟩
  unfold passJoin
  simp only []
  split <;> simp [wids]

/-- the joiners whose join passes are not forgotten although `joiners` is cleared first -/
theorem Sub_checkJoin {a s : St} (h : Sub a s) : Sub a (checkJoin s) := by
  refine h.trans ?_
  unfold checkJoin
  split
  · have key : ∀ (ws : List Waiter) (x : St) (id : Nat), id ∈ wids x ∨ id ∈ ws.map (·.id) →
        id ∈ wids (ws.foldl passJoin x) := by
      intro ws
      induction ws with
      | nil => intro x id h; simpa using h
      | cons w r ih =>
        intro x id h
        refine ih _ id ?_
        simp only [List.map_cons, List.mem_cons] at h
        rcases h with h | h | h
        · exact .inl ((Sub_passJoin x w).1 id h)
        · exact .inl (h ▸ (Sub_passJoin x w).2)
        · exact .inr h
    intro id h
    refine key _ _ id ?_
    simp only [wids, List.mem_append, List.map_nil, List.not_mem_nil, false_or] at h ⊢
    grind
  · exact .refl _

theorem Sub_stable (a : St) : Stable (Sub a) where
  step s s' h hz := by
    cases hz
    case iter => exact Sub_checkJoin h
    case done => exact h.trans (.of_set rfl rfl)
    -- the others leave `joiners`, `flaggers` and `retLog` alone
    all_goals exact h
  fire s s' h hf := by
    cases hf
    case finOk => exact h.trans (.of_set rfl rfl)
    all_goals exact h
  clock s t b h _ := h

theorem Sub_zstep (s s' : St) (hz : zstep s = some s') : Sub s s' := (Sub_stable s).step _ _ (.refl s) (zstep_step hz)

theorem Sub_fireTimed (s : St) (when kind : Nat) (hn : nextTimed s = some (when, kind)) : Sub s (fireTimed s when kind) :=
  (Sub_stable s).fireTimed hn (.refl s)

def In.waitId : In → List Nat
  | .wait _ id _ => [id]
  | _ => []

def waitsOf (ins : List In) : List Nat := (ins.map In.waitId).flatten

theorem Sub_input {i : In} {s s' : St} (hi : Input i s s') : Sub s s' ∧ ∀ id ∈ i.waitId, id ∈ wids s' := by
  cases hi
  case submit hp | fput hp => cases hp <;> exact ⟨.refl _, nofun⟩
  case pass => exact ⟨(Sub_passJoin s _).1, List.forall_mem_singleton.mpr (Sub_passJoin s _).2⟩
  case join => exact ⟨.of_subset (List.subset_append_left ..) (fun _ h => .inl h) (fun _ h => h), by simp [In.waitId, wids]⟩
  case fclear => exact ⟨.refl _, nofun⟩

theorem Sub_applyIn (s : St) (i : In) (hsd : i.isShutdown = false) :
    Sub s (applyIn s i) ∧ ∀ id ∈ i.waitId, id ∈ wids (applyIn s i) :=
  have h := Sub_input (applyIn_input (s := s) hsd)
  ⟨((Sub_stable s).arrive s i.time (.refl s)).trans h.1, h.2⟩

theorem Sub_foldl : ∀ (ins : List In) (s : St), (∀ i ∈ ins, i.isShutdown = false) →
    Sub s (ins.foldl applyIn s) ∧ ∀ id ∈ waitsOf ins, id ∈ wids (ins.foldl applyIn s) := by
  intro ins
  induction ins with
  | nil => intro s _; exact ⟨Sub.refl _, fun _ h => by simp [waitsOf] at h⟩
  | cons i r ih =>
    intro s hsd
    simp only [List.foldl_cons]
    obtain ⟨a, b⟩ := Sub_applyIn s i (hsd i (by simp))
    obtain ⟨c, d⟩ := ih (applyIn s i) (fun j hj => hsd j (List.mem_cons_of_mem _ hj))
    refine ⟨Sub.trans a c, ?_⟩
    intro id hid
    simp only [waitsOf, List.map_cons, List.flatten_cons, List.mem_append] at hid
    rcases hid with hid | hid
    · exact c id (b id hid)
    · exact d id hid

theorem waits_after (s : St) (ins : List In) (hsd : ∀ i ∈ ins, i.isShutdown = false) (n : Nat) :
    ∀ id ∈ waitsOf ins, id ∈ wids (tickN n (ins.foldl applyIn s)) :=
  fun id hid => (Sub_stable _).tickN n _ (.refl _) id ((Sub_foldl ins s hsd).2 id hid)

/-- every `wait()` a program issues is, after the program, blocked or returned -/
theorem waits_accounted (s : St) (ins : List In) (hsd : ∀ i ∈ ins, i.isShutdown = false) :
    ∀ id ∈ waitsOf ins, id ∈ wids (runProgram s ins) := by
  obtain ⟨k, hk⟩ := advance_is_ticks fuelDefault horizon false (ins.foldl applyIn s)
  unfold runProgram
  rw [hk]
  exact waits_after s ins hsd k

end AiutiVerif.Buffer
