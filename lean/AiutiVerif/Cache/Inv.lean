import AiutiVerif.Cache.Model
/-!
# The invariant of the cache LTS

`Inv`: 23 clauses without existentials, in the form the property theorems of `Cache/Props.lean` read them.
The same clauses form six layers with small read-sets, each inductive given the ones before it
(`Cache/Step.lean`), so that every preservation proof runs in a context of a few clauses.  The book-keeping
layers (`Life`, `LockOk`, `Prov`, `Events`) are plain conjunctions: their preservation is one goal per case.
-/
namespace AiutiVerif.Cache.LTS

theorem LoopSt.wasStopped_of (st : LoopSt) (h1 : st.isRunning = false) (h2 : st ≠ .fresh) : st.wasStopped = true := by
  cases st <;> simp_all [LoopSt.isRunning, LoopSt.wasStopped]
theorem LoopSt.not_running_of_wasStopped (st : LoopSt) (h : st.wasStopped = true) : st ≠ .running := by
  cases st <;> simp_all [LoopSt.wasStopped]
theorem Pc.owner_parked (p : Pc) (h1 : p.owner = true) (h2 : p.parked = true) : p = .awaiting := by
  cases p <;> simp_all [Pc.owner, Pc.parked]
theorem Pc.shutOk_of_parked (p : Pc) (h1 : p.parked = true) (h2 : p ≠ .waiting) : p.shutOk = true := by
  cases p <;> simp_all [Pc.shutOk, Pc.parked]
theorem Pc.owner_of_beforeSet (p : Pc) (h : p.beforeSet = true) : p.owner = true := by
  cases p <;> simp_all [Pc.owner, Pc.beforeSet]

/-- has read a marker and holds its event in `ev`: it will wait on that event, or is waiting on it -/
def Pc.captured : Pc → Bool
  | .chkLoop | .relWait | .waiting => true
  | _ => false

structure Inv (s : State) : Prop where
  evLt : ∀ c, (s.cs c).pc.owner → (s.cs c).ev.n < s.nextEv
  evInj : ∀ c d, (s.cs c).pc.owner → (s.cs d).pc.owner → (s.cs c).ev = (s.cs d).ev → c = d
  markLt : ∀ k l (e : EId), s.marker k = some (l, e) → e.n < s.nextEv
  markLoop : ∀ k l e, s.marker k = some (l, e) → s.loops l ≠ .fresh
  own : ∀ c, (s.cs c).pc.owner → (s.cs c).orphan = false → s.marker (s.cs c).key = some ((s.cs c).loop, (s.cs c).ev)
  ownRun : ∀ c, (s.cs c).pc.owner → (s.cs c).orphan = false → s.loops (s.cs c).loop = .running
  orphanAw : ∀ c, (s.cs c).orphan = true → (s.cs c).pc.orphanPc
  shutPc : ∀ c, s.loops (s.cs c).loop = .shutting → (s.cs c).pc.shutOk
  busyRun : ∀ c, (s.cs c).pc.parked = false → (s.loops (s.cs c).loop).isRunning
  lockIff : ∀ c, s.lock = some c ↔ (s.cs c).pc.locked
  putDead : ∀ c, (s.cs c).pc = .put → ∀ d, (s.cs d).pc.owner → (s.cs d).key = (s.cs c).key → (s.cs d).orphan = true
  chkLoopCap : ∀ c, (s.cs c).pc = .chkLoop → s.marker (s.cs c).key = some ((s.cs c).evLoop, (s.cs c).ev)
  idleBeyond : ∀ c : CId, s.ncallers ≤ c.n → (s.cs c).pc = .idle
  cacheProv : ∀ k v, s.cache k = some v → s.produced k v = true
  retProv : ∀ c v, (s.cs c).pc.returning = some v → s.produced (s.cs c).key v = true
  raiseProv : ∀ c x, (s.cs c).pc.raising = some x → s.raisedBy c x = true
  cancelProv : ∀ c, (s.cs c).pc.cancelling = true → s.cancelledC c = true
  evOwn : ∀ c, (s.cs c).pc.owner → s.evOwner (s.cs c).ev = c
  notSet : ∀ c, (s.cs c).pc.beforeSet → s.evSet (s.cs c).ev = false
  evFresh : ∀ e : EId, s.nextEv ≤ e.n → s.evSet e = false
  markLive : ∀ k l e, s.marker k = some (l, e) →
    s.evSet e = true ∨ ((s.cs (s.evOwner e)).pc.beforeSet = true ∧ (s.cs (s.evOwner e)).ev = e)
  capLt : ∀ d, (s.cs d).pc.captured → (s.cs d).ev.n < s.nextEv
  waitLive : ∀ d, (s.cs d).pc.captured →
    s.evSet (s.cs d).ev = true ∨ ((s.cs (s.evOwner (s.cs d).ev)).pc.beforeSet = true ∧ (s.cs (s.evOwner (s.cs d).ev)).ev = (s.cs d).ev)

/-- Event `e` has been set, or the caller that created it is still on its way to `event.set()` and has it
in hand: whoever waits on `e` will be woken.  `Inv.markLive` and `Inv.waitLive` are `Live` written out.  (`live` of
`Props.lean` is something else: an invocation, not an event.) -/
def Live (s : State) (e : EId) : Prop :=
  s.evSet e = true ∨ ((s.cs (s.evOwner e)).pc.beforeSet = true ∧ (s.cs (s.evOwner e)).ev = e)

/-- Which program counters a caller can be at, given the state of its loop
(`orphanAw`, `shutPc`, `busyRun`, `idleBeyond`). -/
def Life (s : State) : Prop :=
  (∀ c, (s.cs c).orphan = true → (s.cs c).pc.orphanPc) ∧
  (∀ c, s.loops (s.cs c).loop = .shutting → (s.cs c).pc.shutOk) ∧
  (∀ c, (s.cs c).pc.parked = false → (s.loops (s.cs c).loop).isRunning) ∧
  (∀ c : CId, s.ncallers ≤ c.n → (s.cs c).pc = .idle)

def LockOk (s : State) : Prop := ∀ c, s.lock = some c ↔ (s.cs c).pc.locked

/-- Provenance of every outcome (C06; `cacheProv`, `retProv`, `raiseProv`, `cancelProv`). -/
def Prov (s : State) : Prop :=
  (∀ k v, s.cache k = some v → s.produced k v = true) ∧
  (∀ c v, (s.cs c).pc.returning = some v → s.produced (s.cs c).key v = true) ∧
  (∀ c x, (s.cs c).pc.raising = some x → s.raisedBy c x = true) ∧
  (∀ c, (s.cs c).pc.cancelling = true → s.cancelledC c = true)

/-- Book-keeping of event identities: fresh, one creator each
(`evLt`, `evInj`, `markLt`, `evOwn`, `evFresh`, `capLt`). -/
def Events (s : State) : Prop :=
  (∀ c, (s.cs c).pc.owner → (s.cs c).ev.n < s.nextEv) ∧
  (∀ c d, (s.cs c).pc.owner → (s.cs d).pc.owner → (s.cs c).ev = (s.cs d).ev → c = d) ∧
  (∀ k l (e : EId), s.marker k = some (l, e) → e.n < s.nextEv) ∧
  (∀ c, (s.cs c).pc.owner → s.evOwner (s.cs c).ev = c) ∧
  (∀ e : EId, s.nextEv ≤ e.n → s.evSet e = false) ∧
  (∀ d, (s.cs d).pc.captured → (s.cs d).ev.n < s.nextEv)

/-- No lost wake-up (C05): an event somebody may wait on is `Live`. -/
structure Alive (s : State) : Prop where
  notSet : ∀ c, (s.cs c).pc.beforeSet → s.evSet (s.cs c).ev = false
  markLive : ∀ k l e, s.marker k = some (l, e) → Live s e
  waitLive : ∀ d, (s.cs d).pc.captured → Live s (s.cs d).ev

/-- The in-flight table (C01): a marker belongs to its non-orphan owner, and a second one is only
written over a dead one. -/
structure Owned (s : State) : Prop where
  markLoop : ∀ k l e, s.marker k = some (l, e) → s.loops l ≠ .fresh
  own : ∀ c, (s.cs c).pc.owner → (s.cs c).orphan = false → s.marker (s.cs c).key = some ((s.cs c).loop, (s.cs c).ev)
  ownRun : ∀ c, (s.cs c).pc.owner → (s.cs c).orphan = false → s.loops (s.cs c).loop = .running
  putDead : ∀ c, (s.cs c).pc = .put → ∀ d, (s.cs d).pc.owner → (s.cs d).key = (s.cs c).key → (s.cs d).orphan = true
  chkLoopCap : ∀ c, (s.cs c).pc = .chkLoop → s.marker (s.cs c).key = some ((s.cs c).evLoop, (s.cs c).ev)

theorem Inv.life {s : State} (h : Inv s) : Life s := ⟨h.orphanAw, h.shutPc, h.busyRun, h.idleBeyond⟩
theorem Inv.prov {s : State} (h : Inv s) : Prov s := ⟨h.cacheProv, h.retProv, h.raiseProv, h.cancelProv⟩
theorem Inv.events {s : State} (h : Inv s) : Events s := ⟨h.evLt, h.evInj, h.markLt, h.evOwn, h.evFresh, h.capLt⟩
theorem Inv.alive {s : State} (h : Inv s) : Alive s := ⟨h.notSet, h.markLive, h.waitLive⟩
theorem Inv.owned {s : State} (h : Inv s) : Owned s := ⟨h.markLoop, h.own, h.ownRun, h.putDead, h.chkLoopCap⟩

theorem Inv.of_layers {s : State} (l : Life s) (k : LockOk s) (p : Prov s) (e : Events s) (a : Alive s) (o : Owned s) :
    Inv s :=
  have ⟨orphanAw, shutPc, busyRun, idleBeyond⟩ := l
  have ⟨cacheProv, retProv, raiseProv, cancelProv⟩ := p
  have ⟨evLt, evInj, markLt, evOwn, evFresh, capLt⟩ := e
  { a, o with lockIff := k, orphanAw, shutPc, busyRun, idleBeyond, cacheProv, retProv, raiseProv, cancelProv, evLt, evInj,
              markLt, evOwn, evFresh, capLt }

theorem inv_init : Inv init := by
  constructor <;> simp [init, Pc.owner, Pc.locked, Pc.parked, Pc.shutOk, Pc.returning, Pc.raising,
    Pc.cancelling, Pc.beforeSet, Pc.captured]

theorem allParked_spec (s : State) (l : LId) (hidle : ∀ c : CId, s.ncallers ≤ c.n → (s.cs c).pc = .idle)
    (h : allParked s l = true) : ∀ c, (s.cs c).loop = l → (s.cs c).pc.parked = true := by
  intro c hc
  rcases Nat.lt_or_ge c.n s.ncallers with hlt | hge
  · simpa [hc] using List.all_eq_true.mp h c.n (List.mem_range.mpr hlt)
  · rw [hidle c hge]; rfl

end AiutiVerif.Cache.LTS
