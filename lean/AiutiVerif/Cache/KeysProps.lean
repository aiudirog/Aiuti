import AiutiVerif.Cache.Keys
import AiutiVerif.Core.ListLemmas
/-!
# C14 — same arguments share, different arguments never do
-/
namespace AiutiVerif.Cache

theorem sameSet_iff (a b : List (Nat × V)) : sameSet a b = true ↔ ∀ p, p ∈ a ↔ p ∈ b := by
  simp only [sameSet, Bool.and_eq_true, List.all_eq_true, List.contains_iff_mem, iff_iff_implies_and_implies, forall_and]

/-- Two calls share a cache entry exactly when their positional arguments are equal in order
and their keyword arguments are equal as a set of name/value pairs. -/
theorem C14_key_iff (x y : Sig) :
    keyEq x y = true ↔ x.args = y.args ∧ ∀ p, p ∈ x.kw ↔ p ∈ y.kw := by
  simp [keyEq, sameSet_iff]

/-- Keyword order is irrelevant. -/
theorem C14_kw_order_irrelevant (args : List V) (kw kw' : List (Nat × V)) (h : kw.Perm kw') :
    keyEq ⟨args, kw⟩ ⟨args, kw'⟩ = true := by
  rw [C14_key_iff]; exact ⟨rfl, fun p => h.mem_iff⟩

/-- Positional order is relevant. -/
theorem C14_positional_matters (a b : V) (h : a ≠ b) : keyEq ⟨[a, b], []⟩ ⟨[b, a], []⟩ = false := by
  simp [keyEq, h]

/-- A positional argument is not a keyword argument. -/
theorem C14_positional_is_not_keyword (n : Nat) (v : V) : keyEq ⟨[v], []⟩ ⟨[], [(n, v)]⟩ = false := by
  simp [keyEq]

theorem keyEq_refl (x : Sig) : keyEq x x = true := by rw [C14_key_iff]; exact ⟨rfl, fun _ => Iff.rfl⟩
theorem keyEq_symm (x y : Sig) (h : keyEq x y = true) : keyEq y x = true := by
  rw [C14_key_iff] at h ⊢; exact ⟨h.1.symm, fun p => (h.2 p).symm⟩
theorem keyEq_trans (x y z : Sig) (h1 : keyEq x y = true) (h2 : keyEq y z = true) : keyEq x z = true := by
  rw [C14_key_iff] at h1 h2 ⊢; exact ⟨h1.1.trans h2.1, fun p => (h1.2 p).trans (h2.2 p)⟩

theorem keyEq_congr_right {k k' : Sig} (h : keyEq k k' = true) (e : Sig) : keyEq e k = keyEq e k' := by
  rw [Bool.eq_iff_iff]
  exact ⟨fun he => keyEq_trans _ _ _ he h, fun he => keyEq_trans _ _ _ he (keyEq_symm _ _ h)⟩

theorem lookup_congr (st : Store) (k k' : Sig) (h : keyEq k k' = true) : lookup st k = lookup st k' := by
  unfold lookup
  simp only [keyEq_congr_right h]

theorem lookup_erase (st : Store) (k k' : Sig) :
    lookup (erase st k) k' = if keyEq k k' = true then none else lookup st k' := by
  unfold lookup erase
  rw [List.find?_filter]
  split
  · rename_i h
    simp [← keyEq_congr_right h]
  · rename_i h
    congr 2
    funext e
    -- an entry that matches `k'` does not match `k`, or the two would be equal keys
    cases h1 : keyEq e.1 k' <;> cases h2 : keyEq e.1 k <;> simp
    exact h (keyEq_trans _ _ _ (keyEq_symm _ _ h2) h1)

/-- A hit never invokes the wrapped function and returns the stored value. -/
theorem C14_hit_no_invocation (s : St) (k : Sig) (v : Nat) (h : lookup s.store k = some v) :
    (step s (.call k)).ninv = s.ninv ∧ (step s (.call k)).rets = s.rets ++ [(k, v)] ∧
    (step s (.call k)).store = s.store := by
  simp [step, h]

/-- A miss invokes it exactly once and remembers the result for every equal key. -/
theorem C14_miss_one_invocation (s : St) (k : Sig) (h : lookup s.store k = none) :
    (step s (.call k)).ninv = s.ninv + 1 ∧ (step s (.call k)).invLog = s.invLog ++ [k] ∧
    ∀ k', keyEq k k' = true → lookup (step s (.call k)).store k' = some s.ninv := by
  simp only [step, h]
  refine ⟨trivial, trivial, fun k' hk => ?_⟩
  rw [lookup_congr s.store k k' hk] at h
  unfold lookup at h ⊢
  simp only [Option.map_eq_none_iff] at h
  simp [List.find?_append, h, hk]

/-- The supplied mapping is the only store: an evicted key is forgotten (so the next call misses:
`C14_miss_one_invocation`) … -/
theorem C14_evict_forgets (st : Store) (k k' : Sig) (h : keyEq k k' = true) : lookup (erase st k) k' = none := by
  rw [lookup_erase, if_pos h]

/-- … and no other key is affected. -/
theorem C14_evict_only_that_key (st : Store) (k k' : Sig) (h : keyEq k k' = false) :
    lookup (erase st k) k' = lookup st k' := by
  rw [lookup_erase, if_neg (by simp [h])]

/-- Every entry of `l` names (by its index in the log) an invocation whose arguments form an equal key. -/
def Traced (log : List Sig) (l : List (Sig × Nat)) : Prop :=
  ∀ e ∈ l, ∃ k0, log[e.2]? = some k0 ∧ keyEq k0 e.1 = true

theorem Traced.log_snoc {log : List Sig} {l : List (Sig × Nat)} (h : Traced log l) (k : Sig) :
    Traced (log ++ [k]) l := fun e he => by
  obtain ⟨k0, h1, h2⟩ := h e he
  exact ⟨k0, by rw [List.getElem?_append_left (lt_of_getElem? h1)]; exact h1, h2⟩

theorem Traced.snoc {log : List Sig} {l : List (Sig × Nat)} (h : Traced log l) {k k0 : Sig} {v : Nat}
    (h1 : log[v]? = some k0) (h2 : keyEq k0 k = true) : Traced log (l ++ [(k, v)]) := fun e he => by
  rcases List.mem_append.mp he with he | he
  · exact h e he
  · rw [List.mem_singleton.mp he]; exact ⟨k0, h1, h2⟩

/-- No cross-talk, for every sequence of calls and evictions: whatever a call returns was
computed by an invocation whose arguments form an equal key; and everything in the store was. -/
theorem C14_no_cross_talk (ops : List Op) :
    (∀ e ∈ (run ops).store, ∃ k0, (run ops).invLog[e.2]? = some k0 ∧ keyEq k0 e.1 = true) ∧
    (∀ r ∈ (run ops).rets, ∃ k0, (run ops).invLog[r.2]? = some k0 ∧ keyEq k0 r.1 = true) ∧
    (run ops).invLog.length = (run ops).ninv := by
  refine List.foldlRecOn (b := ({} : St)) (motive := fun s => Traced s.invLog s.store ∧ Traced s.invLog s.rets ∧
    s.invLog.length = s.ninv) ops step ⟨fun _ he => (List.not_mem_nil he).elim, fun _ he => (List.not_mem_nil he).elim, rfl⟩ ?_
  intro s ⟨h1, h2, h3⟩ op _
  cases op with
  | evict => exact ⟨fun e he => h1 e (List.mem_filter.mp he).1, h2, h3⟩
  | call k =>
    simp only [step]
    cases hl : lookup s.store k with
    | some =>
      -- a hit returns an entry of the store, whose key equals `k`
      obtain ⟨e, he, hv⟩ := Option.map_eq_some_iff.mp hl
      obtain ⟨k0, hk0, hk0e⟩ := h1 e (List.mem_of_find?_eq_some he)
      have hek := List.find?_some he
      exact ⟨h1, h2.snoc (hv ▸ hk0) (keyEq_trans _ _ _ hk0e hek), h3⟩
    | none =>
      have hnew : (s.invLog ++ [k])[s.ninv]? = some k := by rw [← h3]; simp
      exact ⟨(h1.log_snoc k).snoc hnew (keyEq_refl k), (h2.log_snoc k).snoc hnew (keyEq_refl k), by simp [h3]⟩

example :
    let a : Sig := ⟨[1, 2], [(10, 5), (11, 6)]⟩
    let a' : Sig := ⟨[1, 2], [(11, 6), (10, 5)]⟩     -- keywords in the other order
    let b : Sig := ⟨[2, 1], [(10, 5), (11, 6)]⟩      -- positional order differs
    (run [.call a, .call a', .call b, .evict a', .call a, .call a]).invLog = [a, b, a] ∧
    (run [.call a, .call a', .call b, .evict a', .call a, .call a]).rets.map (·.2) = [0, 0, 1, 2, 2] := by
  decide

end AiutiVerif.Cache
