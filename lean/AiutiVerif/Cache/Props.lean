import AiutiVerif.Cache.Step
import AiutiVerif.Core.ListLemmas
/-!
# C01 / C05 / C06 — property theorems about the cache LTS

All statements are for **every** label sequence accepted from the initial state: any number of
callers, keys, loops and threads, every interleaving at shared-access granularity, every
history of loop life-cycle events (stop with a computation pending, shutdown cancelling
leftovers, close), evictions by the mapping, cancellations by clients.
-/
namespace AiutiVerif.Cache.LTS

theorem inv_reachable (ls : List Label) : ∀ (s s' : State), Inv s → accepts s ls = some s' → Inv s' :=
  accepts_induct (fun _ => rfl) (fun s l ls => by rw [accepts]; cases step s l <;> rfl) inv_step ls

theorem inv_of_accepts {ls : List Label} {s : State} (hs : accepts init ls = some s) : Inv s :=
  inv_reachable ls init s inv_init hs

/-- An invocation of the wrapped function is *live*: in progress on a loop that has been running
ever since it started (an invocation left pending on a loop that stopped counts as ended). -/
def live (s : State) (c : CId) : Prop := (s.cs c).pc = .awaiting ∧ (s.cs c).orphan = false

/-- There is at most one non-orphan owner of a key at any stage of its computation (about to invoke,
invoking, storing, publishing). -/
theorem C01_one_owner (ls : List Label) (s : State) (hs : accepts init ls = some s)
    (c d : CId) (oc : (s.cs c).pc.owner = true) (od : (s.cs d).pc.owner = true)
    (o1 : (s.cs c).orphan = false) (o2 : (s.cs d).orphan = false)
    (hk : (s.cs c).key = (s.cs d).key) : c = d := by
  have h := inv_of_accepts hs
  have m1 := h.own c oc o1
  have m2 := h.own d od o2
  exact h.evInj c d oc od (by rw [hk, m2] at m1; simpa using (Prod.mk.inj (Option.some.inj m1)).2.symm)

/-- **Single-flight.** Two `live` invocations of the wrapped function for the same key (in progress on a loop
that has been running ever since; an invocation orphaned by a stop stays an orphan when its loop is run again)
are never in progress at once. -/
theorem C01_single_flight (ls : List Label) (s : State) (hs : accepts init ls = some s)
    (c d : CId) (hc : live s c) (hd : live s d) (hk : (s.cs c).key = (s.cs d).key) : c = d :=
  C01_one_owner ls s hs c d (by rw [hc.1]; rfl) (by rw [hd.1]; rfl) hc.2 hd.2 hk

/-- Nobody is about to write a second marker while one is alive: a caller takes a key over only from
a marker whose loop has stopped. -/
theorem C01_takeover_only_from_dead (ls : List Label) (s : State) (hs : accepts init ls = some s)
    (c d : CId) (oc : (s.cs c).pc.owner = true) (o1 : (s.cs c).orphan = false)
    (hd : (s.cs d).pc = .put) (hk : (s.cs c).key = (s.cs d).key) : False :=
  Bool.false_ne_true (o1.symm.trans ((inv_of_accepts hs).putDead d hd c oc hk))

/-- Once a result is in the (retaining) mapping every caller that probes returns exactly it,
without invoking anything. -/
theorem C01_cached_is_returned (s : State) (c : CId) (v : Val)
    (hpc : (s.cs c).pc = .probe1 ∨ (s.cs c).pc = .probe2) (hr : (s.loops (s.cs c).loop).isRunning = true)
    (hc : s.cache (s.cs c).key = some v) :
    ∃ s', stepCaller s c = some s' ∧ (s'.cs c).pc = .done (.ok v) := by
  rcases hpc with hpc | hpc <;> simp [stepCaller, hr, hpc, hc, State.setPc, upd]

/-- **Every caller sees only its own outcome.** A finished call returned a value produced by a
successful invocation for its key, or raised an exception raised by an invocation this very call
performed, or was cancelled because its own task was cancelled. There is no fourth way: the
bookkeeping itself never raises (`done` carries nothing else). -/
theorem C06_outcome (ls : List Label) (s : State) (hs : accepts init ls = some s) (c : CId) (o : Outcome)
    (hd : (s.cs c).pc = .done o) :
    match o with
    | .ok v => s.produced (s.cs c).key v = true
    | .raised x => s.raisedBy c x = true
    | .cancelled => s.cancelledC c = true := by
  have h := inv_of_accepts hs
  cases o with
  | ok v => exact h.retProv c v (by rw [hd]; rfl)
  | raised x => exact h.raiseProv c x (by rw [hd]; rfl)
  | cancelled => exact h.cancelProv c (by rw [hd]; rfl)

/-- A failed or cancelled computation caches nothing: whatever is in the mapping was returned by
a successful invocation for that key. -/
theorem C06_failure_not_cached (ls : List Label) (s : State) (hs : accepts init ls = some s)
    (k : KId) (v : Val) (hc : s.cache k = some v) : s.produced k v = true :=
  (inv_of_accepts hs).cacheProv k v hc

/-- Cancelling a waiting caller leaves the cache, the in-flight table, the lock, the loops, the events and every other caller as they were. -/
theorem C06_cancel_isolated (s s' : State) (c : CId) (hs : step s (.cancelWait c) = some s') :
    s'.cache = s.cache ∧ s'.marker = s.marker ∧ s'.lock = s.lock ∧ s'.loops = s.loops ∧
    s'.evSet = s.evSet ∧ ∀ d, d ≠ c → s'.cs d = s.cs d := by
  simp only [step] at hs
  split at hs
  · simp only [Option.some.injEq] at hs; subst hs
    refine ⟨rfl, rfl, rfl, rfl, rfl, ?_⟩
    intro d hd; simp [State.setPc, upd, hd]
  · simp at hs

/-- The removal of the in-flight marker is enabled whenever the caller's loop runs, whoever owns the marker by then (the F2 repair:
`finDel` removes only the caller's own marker, so there is no `KeyError` path in the model to take). -/
theorem C06_marker_removal_never_fails (s : State) (c : CId) (o : Outcome) (hpc : (s.cs c).pc = .finDel o)
    (hr : (s.loops (s.cs c).loop).isRunning = true) : (stepCaller s c).isSome = true := by
  simp [stepCaller, hr, hpc]

/-- **No lost wake-up.** A caller waiting on an event that is not set: the caller that created
the event is still before its `event.set()` with that very event — so the wake-up is still to
come when its invocation ends (or it was orphaned, and the 60 s safety timer recovers). -/
theorem C05_no_lost_wakeup (ls : List Label) (s : State) (hs : accepts init ls = some s) (d : CId)
    (hw : (s.cs d).pc = .waiting) (hns : s.evSet (s.cs d).ev = false) :
    (s.cs (s.evOwner (s.cs d).ev)).pc.beforeSet = true ∧ (s.cs (s.evOwner (s.cs d).ev)).ev = (s.cs d).ev :=
  ((inv_of_accepts hs).waitLive d (by rw [hw]; rfl)).resolve_left (by simp [hns])

/-- asks for `event_making_lock` with its next step -/
def Pc.wantsLock : Pc → Bool
  | .lockAcq | .finAcq _ => true
  | _ => false

theorem stepCaller_isSome (s : State) (c : CId) :
    (stepCaller s c).isSome =
      ((s.loops (s.cs c).loop).isRunning && !(s.cs c).pc.parked && !((s.cs c).pc.wantsLock && s.lock.isSome)) := by
  unfold stepCaller
  cases hr : (s.loops (s.cs c).loop).isRunning <;> cases hp : (s.cs c).pc <;>
    simp [hr, hp, Pc.parked, Pc.wantsLock] <;> split <;> simp_all

theorem Pc.busy_of_locked (p : Pc) (h : p.locked = true) : p.parked = false ∧ p.wantsLock = false := by
  cases p <;> simp_all [Pc.locked, Pc.parked, Pc.wantsLock]

/-- The lock is never held across an `await`: its holder can always take its next step, so
nobody waits for the lock for ever. -/
theorem C05_lock_holder_enabled (ls : List Label) (s : State) (hs : accepts init ls = some s) (c : CId)
    (hl : s.lock = some c) : (stepCaller s c).isSome = true := by
  have h := inv_of_accepts hs
  obtain ⟨hp, hw⟩ := Pc.busy_of_locked _ ((h.lockIff c).mp hl)
  rw [stepCaller_isSome, h.busyRun c hp, hp, hw]
  rfl

/-- A waiting caller on a running loop can always be woken and go round the loop again. -/
theorem C05_waiter_wakeable (s : State) (c : CId) (hw : (s.cs c).pc = .waiting)
    (hr : (s.loops (s.cs c).loop).isRunning = true) : (step s (.wake c)).isSome = true := by
  simp [step, hw, hr]

/-- A finished invocation can publish once the lock is free (the general condition for a caller's own step is
`stepCaller_isSome`). -/
theorem C05_publisher_enabled (s : State) (c : CId) (o : Outcome) (hp : (s.cs c).pc = .finAcq o)
    (hr : (s.loops (s.cs c).loop).isRunning = true) (hl : s.lock = none) : (stepCaller s c).isSome = true := by
  simp [stepCaller, hp, hr, hl]

/-- **Nobody is ever stuck.**  In every reachable state, every caller that has called and not
finished, on a loop that is running, can make progress: its own next step is enabled, or the
invocation it awaits can end (the environment's move; a cancellation is always possible), or it can be
woken (by the event, by the 60 s safety timer, by a refusal: the `wake` label), or it wants the lock and
the lock's holder - never suspended while holding it - can take *its* next step.  With
`C05_moves_make_progress` and `C01_takeover_only_from_dead` this is the logic half of "every call
terminates".  That the scheduler lets the enabled steps happen (fairness) and that the safety timer is 60 s
are the runtime's part, explored by the differential. -/
theorem C05_never_stuck (ls : List Label) (s : State) (hs : accepts init ls = some s) (c : CId)
    (hrun : (s.loops (s.cs c).loop).isRunning = true) (hidle : (s.cs c).pc ≠ .idle)
    (hdone : ∀ o, (s.cs c).pc ≠ .done o) :
    (stepCaller s c).isSome = true ∨ (step s (.iend c .cancelled)).isSome = true ∨ (step s (.wake c)).isSome = true ∨
    (∃ h, s.lock = some h ∧ h ≠ c ∧ (stepCaller s h).isSome = true) := by
  by_cases hpark : (s.cs c).pc.parked = true
  · -- suspended: at the invocation it awaits, or at the owner's event
    cases hp : (s.cs c).pc <;> simp [hp, Pc.parked] at hpark
    · exact absurd hp hidle
    · right; left; simp [step, hp, hrun]
    · right; right; left; simp [step, hp, hrun]
    · exact absurd hp (hdone _)
  · rw [Bool.not_eq_true] at hpark
    cases hw : (s.cs c).pc.wantsLock with
    | false => left; rw [stepCaller_isSome, hrun, hpark, hw]; rfl
    | true =>
      cases hl : s.lock with
      | none => left; rw [stepCaller_isSome, hrun, hpark, hl]; simp
      | some h =>
        -- it asks for the lock: the holder is somebody else, who can move
        refine Or.inr (Or.inr (Or.inr ⟨h, rfl, fun e => ?_, C05_lock_holder_enabled ls s hs h hl⟩))
        have := (Pc.busy_of_locked _ (((inv_of_accepts hs).lockIff h).mp hl)).2
        rw [e, hw] at this
        cases this

-- `waiting` is left by a wake-up, a cancellation or a shutdown, none of them a move `C05_moves_make_progress`
-- speaks of: any value below that of `relWait`, the one point that leads to it, would do.  `idle` is left only by
-- `call`, not one of those moves either: its value is never compared.
/-- how far a call is from its end along the program-counter path (a wake-up starts the path again) -/
def Pc.togo : Pc → Nat
  | .probe1 => 17 | .lockAcq => 16 | .probe2 => 15 | .chk => 14 | .chkLoop => 13 | .put => 12
  | .relOwn => 11 | .relWait => 11 | .invoke => 10 | .awaiting => 9 | .store _ => 8 | .finAcq _ => 7
  | .finSet _ => 6 | .finDel _ => 5 | .finRel _ => 4 | .waiting => 3 | .done _ => 0 | .idle => 18

/-- **Every move of a call brings it closer to its end.**  Only a wake-up (`waiting → probe1`) sends a call
round again - and it waits again only for a *live* owner's event (`C05_no_lost_wakeup`,
`C01_takeover_only_from_dead`); `togo` is at most 17 on the path, so between two waits a call makes at most
17 moves. -/
theorem C05_moves_make_progress (s s' : State) (c : CId) :
    (stepCaller s c = some s' → (s'.cs c).pc.togo < (s.cs c).pc.togo) ∧
    (∀ o, step s (.iend c o) = some s' → (s'.cs c).pc.togo < (s.cs c).pc.togo) := by
  constructor
  · intro h
    unfold stepCaller at h
    cases hp : (s.cs c).pc <;> simp only [hp] at h <;> split at h
    -- some steps branch once more: on the cache, the marker, the lock or the captured loop
    any_goals split at h
    all_goals cases h
    all_goals simp [State.setPc, upd, Pc.togo]
  · intro o h
    simp only [step] at h
    split at h
    · rename_i hc
      cases o <;> cases h <;> simp [State.setPc, upd, Pc.togo, hc.1]
    · cases h

/-- A caller that has read a marker and is about to wait holds the marker's current (loop, event): the event it
will wait on is the one the owner sets. -/
theorem C05_waits_on_owners_event (ls : List Label) (s : State) (hs : accepts init ls = some s) (c : CId)
    (hc : (s.cs c).pc = .chkLoop) :
    s.marker (s.cs c).key = some ((s.cs c).evLoop, (s.cs c).ev) :=
  (inv_of_accepts hs).chkLoopCap c hc

end AiutiVerif.Cache.LTS
