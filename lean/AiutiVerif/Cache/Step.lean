import AiutiVerif.Cache.Inv
/-!
# The cache invariant is inductive

The book-keeping layers of `Cache/Inv.lean` are checked case by case, the successor state being explicit in every case and the
context holding nothing but the layer itself.  The two layers that carry the protocol (`Alive`: no lost
wake-up, `Owned`: the in-flight table) are derived from facts about what a single step can do to a marker, an
event or a program counter; those facts need no invariant (`step_running` only that callers beyond `ncallers`
are idle, to read `allParked`).
-/
namespace AiutiVerif.Cache.LTS

/-- Opens `hs : step s l = some s'`: one goal per label, program counter and branch, with `s'` replaced by
the successor state (`step` and `stepCaller` nest at most three matches). -/
macro "open_step" hs:ident : tactic => `(tactic|
  (cases ‹Label› <;> dsimp only [LTS.step, LTS.stepCaller] at $hs:ident <;>
   (try split at $hs:ident) <;> (try split at $hs:ident) <;> (try split at $hs:ident) <;> cases $hs:ident))

theorem Life.step {s s' : State} {l : Label} (h : Life s) (hs : step s l = some s') : Life s' := by
  unfold Life at *
  obtain ⟨h1, h2, h3, h4⟩ := h
  -- a loop stops or is closed only when `allParked`, which speaks of the callers below `ncallers`
  have hp := fun l => allParked_spec s l h4
  open_step hs <;> dsimp only [State.setPc, upd] <;>
    grind [Pc.orphanPc, Pc.shutOk, Pc.parked, LoopSt.isRunning, Pc.shutOk_of_parked]

theorem LockOk.step {s s' : State} {l : Label} (h : LockOk s) (hs : step s l = some s') : LockOk s' := by
  unfold LockOk at *
  open_step hs <;> dsimp only [State.setPc, upd] <;> grind [Pc.locked]

theorem Prov.step {s s' : State} {l : Label} (h : Prov s) (hs : step s l = some s') : Prov s' := by
  unfold Prov at *
  obtain ⟨h1, h2, h3, h4⟩ := h
  -- the only layer that looks inside the outcome a program counter carries
  open_step hs <;> (try cases ‹Outcome›) <;> dsimp only [State.setPc, upd] <;>
    grind [Pc.returning, Pc.raising, Pc.cancelling]

theorem Events.step {s s' : State} {l : Label} (h : Events s) (hs : step s l = some s') : Events s' := by
  unfold Events at *
  obtain ⟨h1, h2, h3, h4, h5, h6⟩ := h
  open_step hs <;> dsimp only [State.setPc, upd] <;> grind [Pc.owner, Pc.captured]

/-- Once live, always live: `evSet` only grows, an event's creator is never reassigned, and the creator
leaves `beforeSet` only by setting the event. -/
theorem Live.step {s s' : State} {l : Label} {e : EId} (h : Live s e) (he : e.n < s.nextEv)
    (hs : step s l = some s') : Live s' e := by
  unfold Live at *
  open_step hs <;> dsimp only [State.setPc, upd] <;> grind [Pc.beforeSet]

theorem Live.of_owner {s : State} {c : CId} (h1 : (s.cs c).pc.beforeSet = true) (h2 : s.evOwner (s.cs c).ev = c) :
    Live s (s.cs c).ev := Or.inr ⟨by rw [h2]; exact h1, by rw [h2]⟩

theorem step_marker {s s' : State} {l : Label} (hs : step s l = some s') {k : KId} {lo : LId} {e : EId}
    (h : s'.marker k = some (lo, e)) :
    s.marker k = some (lo, e) ∨ ∃ c, (s'.cs c).pc = .relOwn ∧ (s'.cs c).ev = e ∧ (s'.cs c).loop = lo := by
  open_step hs <;> dsimp only [State.setPc, upd] at h ⊢ <;> grind

theorem step_captured {s s' : State} {l : Label} (hs : step s l = some s') {d : CId}
    (h : (s'.cs d).pc.captured = true) :
    ((s.cs d).pc.captured = true ∧ (s'.cs d).ev = (s.cs d).ev) ∨
      ∃ lo, s.marker (s.cs d).key = some (lo, (s'.cs d).ev) := by
  open_step hs <;> dsimp only [State.setPc, upd] at h ⊢ <;> grind [Pc.captured]

theorem step_evSet {s s' : State} {l : Label} (hs : step s l = some s') {e : EId} (h : s'.evSet e = true) :
    s.evSet e = true ∨ ∃ c o, (s.cs c).pc = .finSet o ∧ (s.cs c).ev = e ∧ (s'.cs c).pc = .finDel o := by
  open_step hs <;> dsimp only [State.setPc, upd] at h ⊢ <;> grind

theorem step_beforeSet {s s' : State} {l : Label} (hs : step s l = some s') {d : CId}
    (h : (s'.cs d).pc.beforeSet = true) :
    ((s.cs d).pc.beforeSet = true ∧ (s'.cs d).ev = (s.cs d).ev) ∨ (s'.cs d).ev = ⟨s.nextEv⟩ := by
  open_step hs <;> dsimp only [State.setPc, upd] at h ⊢ <;> grind [Pc.beforeSet]

theorem Alive.step {s s' : State} {l : Label} (he : Events s) (he' : Events s') (h : Alive s)
    (hs : step s l = some s') : Alive s' := by
  obtain ⟨evLt, evInj, markLt, -, evFresh, capLt⟩ := he
  obtain ⟨-, -, -, evOwn', -, -⟩ := he'
  refine { notSet := fun d hb => ?_, markLive := fun k lo e hm => ?_, waitLive := fun d hc => ?_ }
  · -- an event that is set was set before, or has just been set by its one creator, who thereby left `beforeSet`
    cases hset : s'.evSet (s'.cs d).ev with
    | false => rfl
    | true =>
      exfalso
      obtain hold | ⟨c, o, hc, hev, hc'⟩ := step_evSet hs hset
      · obtain ⟨h1, h2⟩ | h2 := step_beforeSet hs hb
        · rw [h2, h.notSet d h1] at hold; cases hold
        · rw [h2, evFresh _ (Nat.le_refl _)] at hold; cases hold
      · have hco : (s.cs c).pc.owner = true := by rw [hc]; rfl
        obtain ⟨h1, h2⟩ | h2 := step_beforeSet hs hb
        · have := evInj c d hco (Pc.owner_of_beforeSet _ h1) (by rw [hev, h2])
          subst this; rw [hc'] at hb; cases hb
        · have := evLt c hco
          rw [hev, h2] at this; exact Nat.lt_irrefl _ this
  · obtain h1 | ⟨c, h1, h2, -⟩ := step_marker hs hm
    · exact (h.markLive k lo e h1).step (markLt k lo e h1) hs
    · subst h2; exact Live.of_owner (by rw [h1]; rfl) (evOwn' c (by rw [h1]; rfl))
  · obtain ⟨h1, h2⟩ | ⟨lo, h1⟩ := step_captured hs hc
    · rw [h2]; exact (h.waitLive d h1).step (capLt d h1) hs
    · exact (h.markLive _ lo _ h1).step (markLt _ lo _ h1) hs

theorem step_loops_fresh {s s' : State} {l : Label} (hs : step s l = some s') {lo : LId}
    (h : s'.loops lo = .fresh) : s.loops lo = .fresh := by
  open_step hs <;> dsimp only [State.setPc, upd] at h ⊢ <;> grind

theorem step_owner {s s' : State} {l : Label} (hs : step s l = some s') {d : CId} (h : (s'.cs d).pc.owner = true)
    (hn : (s'.cs d).orphan = false) :
    (s'.cs d).key = (s.cs d).key ∧ (s'.cs d).loop = (s.cs d).loop ∧
    (((s.cs d).pc = .put ∧ (s'.cs d).pc = .relOwn ∧ s'.marker (s.cs d).key = some ((s.cs d).loop, (s'.cs d).ev)) ∨
      ((s.cs d).pc.owner = true ∧ (s.cs d).orphan = false ∧ (s'.cs d).ev = (s.cs d).ev)) := by
  open_step hs <;> dsimp only [State.setPc, upd] at h hn ⊢ <;> grind [Pc.owner]

/-- Whoever overwrites or removes a marker holds the lock. -/
theorem step_marker_kept {s s' : State} {l : Label} (hs : step s l = some s') {k : KId} {m : LId × EId}
    (h : s.marker k = some m) :
    s'.marker k = some m ∨ ∃ c, (s.cs c).key = k ∧ (s.cs c).pc.locked = true ∧
      ((s.cs c).pc = .put ∨ ((s.cs c).pc.owner = true ∧ (s'.cs c).pc.owner = false ∧ m = ((s.cs c).loop, (s.cs c).ev))) := by
  open_step hs <;> dsimp only [State.setPc, upd] <;> grind [Pc.owner, Pc.locked]

theorem step_running {s s' : State} {l : Label} (hidle : ∀ c : CId, s.ncallers ≤ c.n → (s.cs c).pc = .idle)
    (hs : step s l = some s') {lo : LId} (h : s.loops lo = .running) :
    s'.loops lo = .running ∨ ∀ d, (s.cs d).loop = lo →
      (s.cs d).pc.parked = true ∧ ((s.cs d).pc = .awaiting → (s'.cs d).orphan = true) := by
  have hp := fun l => allParked_spec s l hidle
  open_step hs <;> dsimp only [State.setPc, upd] <;> grind

theorem step_put {s s' : State} {l : Label} (hs : step s l = some s') {c : CId} (h : (s'.cs c).pc = .put) :
    (s'.cs c).key = (s.cs c).key ∧
    ((s.cs c).pc = .put ∨ ((s.cs c).pc = .chk ∧ s.marker (s.cs c).key = none) ∨
      ((s.cs c).pc = .chkLoop ∧ (s.loops (s.cs c).evLoop).isRunning = false)) := by
  open_step hs <;> dsimp only [State.setPc, upd] at h ⊢ <;> grind

theorem step_chkLoop {s s' : State} {l : Label} (hs : step s l = some s') {c : CId} (h : (s'.cs c).pc = .chkLoop) :
    (s'.cs c).key = (s.cs c).key ∧
    (((s.cs c).pc = .chkLoop ∧ (s'.cs c).evLoop = (s.cs c).evLoop ∧ (s'.cs c).ev = (s.cs c).ev) ∨
      ((s.cs c).pc = .chk ∧ s'.marker (s.cs c).key = some ((s'.cs c).evLoop, (s'.cs c).ev))) := by
  open_step hs <;> dsimp only [State.setPc, upd] at h ⊢ <;> grind

theorem Owned.step {s s' : State} {l : Label} (hl : Life s) (hl' : Life s') (hk : LockOk s) (he : Events s)
    (h : Owned s) (hs : step s l = some s') : Owned s' := by
  obtain ⟨-, -, -, idleBeyond⟩ := hl
  obtain ⟨-, shutPc', busyRun', -⟩ := hl'
  obtain ⟨-, evInj, -, -, -, -⟩ := he
  refine { markLoop := fun k lo e hm hf => ?_, own := fun d ho hn => ?_, ownRun := fun d ho hn => ?_,
           putDead := fun c hc d ho hkey => ?_, chkLoopCap := fun c hc => ?_ }
  · obtain h1 | ⟨c, h1, -, h2⟩ := step_marker hs hm
    · exact h.markLoop k lo e h1 (step_loops_fresh hs hf)
    · have := busyRun' c (by rw [h1]; rfl)
      rw [h2, hf] at this; cases this
  · -- a marker changes only under the lock: by a caller in `put` over a dead owner (then `d` is an orphan), or by its
    -- own owner releasing it (then that owner is `d`, who would no longer own)
    obtain ⟨hkey, hloop, ⟨-, -, h1⟩ | ⟨h1, hn', h2⟩⟩ := step_owner hs ho hn
    · rw [hkey, hloop]; exact h1
    · rw [hkey, hloop, h2]
      obtain h3 | ⟨c, h3, -, h4 | ⟨h4, h5, h6⟩⟩ := step_marker_kept hs (h.own d h1 hn')
      · exact h3
      · rw [h.putDead c h4 d h1 h3.symm] at hn'; cases hn'
      · have := evInj c d h4 h1 (congrArg Prod.snd h6).symm
        subst this; rw [ho] at h5; cases h5
  · obtain ⟨-, hloop, ⟨-, h1, -⟩ | ⟨h1, hn', -⟩⟩ := step_owner hs ho hn
    · -- `relOwn` is neither `parked` nor `shutOk`: its loop is running and not `shutting`
      have hr := busyRun' d (by rw [h1]; rfl)
      have hsh := mt (shutPc' d) (by rw [h1]; simp [Pc.shutOk])
      revert hr hsh; cases s'.loops (s'.cs d).loop <;> simp [LoopSt.isRunning]
    · obtain h2 | h2 := step_running idleBeyond hs (h.ownRun d h1 hn')
      · rw [hloop]; exact h2
      · obtain ⟨h2, h3⟩ := h2 d rfl
        rw [h3 (Pc.owner_parked _ h1 h2)] at hn; cases hn
  · cases hn : (s'.cs d).orphan with
    | true => rfl
    | false =>
      exfalso
      obtain ⟨hkc, hc0⟩ := step_put hs hc
      rw [hkc] at hkey
      obtain ⟨hkey', -, ⟨h0, h1, -⟩ | ⟨h1, hn', -⟩⟩ := step_owner hs ho hn
      · -- `d` has just left `put`: it held the lock, and so did `c`
        have hlock : (s.cs c).pc.locked = true := by obtain h | ⟨h, -⟩ | ⟨h, -⟩ := hc0 <;> rw [h] <;> rfl
        have := Option.some.inj (((hk c).mpr hlock).symm.trans ((hk d).mpr (by rw [h0]; rfl)))
        subst this; rw [hc] at h1; cases h1
      · rw [hkey'] at hkey
        obtain h2 | ⟨h2, h3⟩ | ⟨h2, h3⟩ := hc0
        · rw [h.putDead c h2 d h1 hkey] at hn'; cases hn'
        · rw [← hkey, h.own d h1 hn'] at h3; cases h3
        · have := (h.own d h1 hn').symm.trans (hkey ▸ h.chkLoopCap c h2)
          rw [← (Prod.mk.inj (Option.some.inj this)).1, h.ownRun d h1 hn'] at h3; cases h3
  · obtain ⟨hkey, ⟨h0, h1, h2⟩ | ⟨h0, h1⟩⟩ := step_chkLoop hs hc
    · rw [hkey, h1, h2]
      obtain h3 | ⟨c2, -, h3, h4⟩ := step_marker_kept hs (h.chkLoopCap c h0)
      · exact h3
      · -- `c2` holds the lock, and so does `c`
        have := Option.some.inj (((hk c).mpr (by rw [h0]; rfl)).symm.trans ((hk c2).mpr h3))
        subst this; rw [h0] at h4; obtain h4 | ⟨h4, -⟩ := h4 <;> cases h4
    · rw [hkey]; exact h1

theorem inv_step (s s' : State) (l : Label) (h : Inv s) (hs : step s l = some s') : Inv s' :=
  have hl' := h.life.step hs
  have he' := h.events.step hs
  .of_layers hl' (LockOk.step h.lockIff hs) (h.prov.step hs) he' (h.alive.step h.events he' hs)
    (h.owned.step h.life hl' h.lockIff h.events hs)

end AiutiVerif.Cache.LTS
