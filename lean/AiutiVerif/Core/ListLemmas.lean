/-! List facts that several components use, and the induction over an accepted label sequence that every LTS uses. -/
namespace AiutiVerif
variable {α : Type} {l : List α} {n : Nat} {x : α}

theorem lt_of_getElem? (h : l[n]? = some x) : n < l.length := (List.getElem_of_getElem? h).1

theorem take_succ_of_getElem? (h : l[n]? = some x) : l.take (n + 1) = l.take n ++ [x] := by
  rw [List.take_add_one, h]; rfl

theorem drop_of_getElem? (h : l[n]? = some x) : l.drop n = x :: l.drop (n + 1) := by
  rw [List.drop_eq_getElem?_toList_append, h]; rfl

theorem forall_mem_snoc {p : α → Prop} {a : α} (h : ∀ x ∈ l, p x) (ha : p a) : ∀ x ∈ l ++ [a], p x := by
  intro x hx
  rcases List.mem_append.mp hx with hx | hx
  · exact h x hx
  · exact List.mem_singleton.mp hx ▸ ha

theorem nodup_snoc {a : α} (h : l.Nodup) (ha : a ∉ l) : (l ++ [a]).Nodup :=
  List.nodup_append.mpr ⟨h, List.nodup_cons.mpr ⟨List.not_mem_nil, List.nodup_nil⟩,
    fun _ hx _ hy e => ha (List.mem_singleton.mp hy ▸ e ▸ hx)⟩

theorem nodup_map_snoc {β : Type} {f : α → β} {a : α} (h : (l.map f).Nodup) (ha : ∀ x ∈ l, f x ≠ f a) :
    ((l ++ [a]).map f).Nodup :=
  List.map_append ▸ nodup_snoc h fun hm => have ⟨x, hx, e⟩ := List.mem_map.mp hm; ha x hx e

/-- Every LTS defines its own `accepts`; `nil` and `cons` say that it is the fold over its `step`. -/
theorem accepts_induct {σ ι : Type} {step : σ → ι → Option σ} {accepts : σ → List ι → Option σ}
    (nil : ∀ s, accepts s [] = some s) (cons : ∀ s l ls, accepts s (l :: ls) = (step s l).bind (accepts · ls))
    {P : σ → Prop} (hstep : ∀ s s' l, P s → step s l = some s' → P s') :
    ∀ ls s s', P s → accepts s ls = some s' → P s' := by
  intro ls
  induction ls with
  | nil => intro s s' h hs; rw [nil] at hs; cases hs; exact h
  | cons l ls ih =>
    intro s s' h hs
    rw [cons] at hs
    cases h1 : step s l with
    | none => rw [h1] at hs; cases hs
    | some s1 => rw [h1] at hs; exact ih s1 s' (hstep s s1 l h h1) hs

end AiutiVerif
