import AiutiVerif.CrossLoop.Props
/-!
# C17 — the helper threads of `ensure_aw` / `loop_in_thread` never block one another for ever

The completion clause of C17 is false in general (F7, `C17_counterexample_borrowed_loop_stops`: a
*proxying* caller whose target stops).  What does hold is the half of it that concerns the two locks
(`_LOOP_LOCKS_CREATE_LOCK` and the per-loop lock) and the *borrow* branch: a helper thread takes at most
eight steps (`C17_helper_steps_bounded`), none of which can be refused for ever
(`C17_helpers_never_stuck`; unless `loop_in_thread` runs the loop for ever and nobody has asked it to stop,
`runsForever`), so under a fair scheduler every borrowing `ensure_aw` call whose awaitable finishes gets its
helper thread to `done`, and then `ret` is enabled (`C17_borrow_returns`).
-/
namespace AiutiVerif.CrossLoop

/-- A helper thread that has been handed to the pool and has not finished. -/
def TPc.live : TPc → Bool
  | .unused | .done => false
  | _ => true

def TPc.rank : TPc → Nat
  | .unused => 0 | .getLock1 => 1 | .createAcq => 2 | .getLock2 => 3 | .createRel _ => 4
  | .lockAcq _ => 5 | .runStart _ => 6 | .running _ => 7 | .lockRel _ => 8 | .done => 9

def Aw.rank : Aw → Nat
  | .notScheduled => 0 | .scheduled => 1 | .finished => 2

/-- The moves of the helper threads and of the awaitables they evaluate. -/
def Label.helperMove : Label → Bool
  | .get1 .. | .createAcq _ | .get2 .. | .createRel _ | .lockAcq _ | .runStart _ | .runEnd _
  | .lockRel _ | .awRun _ => true
  | _ => false

def Label.thread : Label → Option Nat
  | .get1 t _ | .createAcq t | .get2 t _ | .createRel t | .lockAcq t | .runStart t | .runEnd t
  | .lockRel t => some t
  | _ => none

/-- A borrowing thread inside `run_until_complete(aw_c)` has scheduled `aw_c`. -/
def Inv2 (s : St) : Prop :=
  ∀ t l c, s.thr t = .running l → s.purpose t = .borrow c → s.aw c ≠ .notScheduled

theorem inv2_init : Inv2 {} := by
  intro t l c h; simp at h

theorem inv2_step (s s' : St) (lb : Label) (h : Inv2 s) (hs : step s lb = some s') : Inv2 s' := by
  intro t l c
  specialize h t l c
  revert hs
  fun_cases step s lb <;> rintro ⟨⟩  -- a refused label is gone, an accepted one has put the new state for `s'`
  -- Only `runStart t` brings a thread to `running`, and it schedules a borrowing thread's awaitable; `purpose t`
  -- is written only at a spawn, which leaves `t` at `getLock1`; no step takes an awaitable back to `notScheduled`.
  -- So `h`, or the guard of the step, settles each case, and `grind` finds which.
  all_goals try split  -- `schedule` and `runStart` write `aw` under a condition
  all_goals grind [upd]

theorem inv2_reachable (ls : List Label) : ∀ (s s' : St), Inv2 s → accepts s ls = some s' → Inv2 s' :=
  accepts_preserves inv2_step ls

/-- The situation in which the helper threads wait by design: `loop_in_thread` runs the loop
and nobody has requested the stop. -/
def runsForever (s : St) : Prop :=
  ∃ u l, s.thr u = .running l ∧ s.purpose u = .forever ∧ s.stopReq = false

theorem holder_moves (s : St) (hi : Inv s) (h2 : Inv2 s) (hc : s.closed = false) (u : Nat)
    (hu : (s.thr u).inCreate = true ∨ ∃ l, (s.thr u).holdsLock = some l) :
    (∃ lb : Label, lb.helperMove = true ∧ (step s lb).isSome = true) ∨ runsForever s := by
  cases hp : s.thr u <;> simp [hp, TPc.inCreate, TPc.holdsLock] at hu
  case getLock2 => exact Or.inl ⟨.get2 u s.table.isSome, rfl, by cases htb : s.table <;> simp [step, hp, htb]⟩
  case createRel => exact Or.inl ⟨.createRel u, rfl, by simp [step, hp]⟩
  case runStart => exact Or.inl ⟨.runStart u, rfl, by simp [step, hp, hc]⟩
  case lockRel l => exact Or.inl ⟨.lockRel u, rfl, by simp [step, hp]⟩
  case running l =>
    have hne := List.ne_nil_of_mem (hi.inRun u (by rw [hp]; rfl))
    cases hpu : s.purpose u with
    | forever =>
      cases hsr : s.stopReq with
      | false => exact Or.inr ⟨u, l, hp, hpu, hsr⟩
      | true => exact Or.inl ⟨.runEnd u, rfl, by simp [step, hp, hpu, hsr]⟩
    | borrow c =>
      cases ha : s.aw c with
      | notScheduled => exact absurd ha (h2 u l c hp hpu)
      | scheduled => exact Or.inl ⟨.awRun c, rfl, by simp [step, ha, hne]⟩
      | finished => exact Or.inl ⟨.runEnd u, rfl, by simp [step, hp, hpu, ha]⟩

/-- **The helper threads never dead-lock.**  On a target that has not been closed,
whenever a helper thread is under way a helper move is enabled - unless the loop is being run for ever
and the stop has not been requested, which is what `loop_in_thread` is for. -/
theorem C17_helpers_never_stuck (ls : List Label) (s : St) (hs : accepts {} ls = some s)
    (hc : s.closed = false) (t : Nat) (ht : (s.thr t).live = true) :
    (∃ lb : Label, lb.helperMove = true ∧ (step s lb).isSome = true) ∨ runsForever s := by
  have hi := inv_of_accepts hs
  have h2 := inv2_reachable ls {} s inv2_init hs
  cases hp : s.thr t with
  | unused | done => rw [hp] at ht; simp [TPc.live] at ht
  | getLock1 => exact Or.inl ⟨.get1 t s.table.isSome, rfl, by cases htb : s.table <;> simp [step, hp, htb]⟩
  -- a thread that waits for a lock can take it, or the thread that holds it can move
  | createAcq =>
    cases hch : s.createHolder with
    | none => exact Or.inl ⟨.createAcq t, rfl, by simp [step, hp, hch]⟩
    | some u => exact holder_moves s hi h2 hc u (.inl (hi.createJust u hch))
  | lockAcq l =>
    cases hh : s.holder l with
    | none => exact Or.inl ⟨.lockAcq t, rfl, by simp [step, hp, hh]⟩
    | some u => exact holder_moves s hi h2 hc u (.inr ⟨l, hi.holderJust l u hh⟩)
  | getLock2 | createRel | runStart | running | lockRel =>
    exact holder_moves s hi h2 hc t (by simp [hp, TPc.inCreate, TPc.holdsLock])

theorem upd_mono {α : Type} (r : α → Nat) {f : Nat → α} {a : Nat} {b : α} (h : r (f a) ≤ r b) (x : Nat) :
    r (f x) ≤ r (upd f a b x) := by
  unfold upd; split
  · subst_vars; exact h
  · exact Nat.le_refl _

/-- What one step does to the program points of the helper threads: a thread's own label moves that thread, and no
other, strictly up `TPc.rank` from `getLock1` or later; any other label leaves them alone or hands an unused thread to
the pool (`getLock1`). -/
theorem step_thr {s s' : St} {lb : Label} (hs : step s lb = some s') :
    match lb.thread with
    | some t => ∃ p', s'.thr = upd s.thr t p' ∧ 1 ≤ (s.thr t).rank ∧ (s.thr t).rank < p'.rank
    | none => s'.thr = s.thr ∨ ∃ t, s.thr t = .unused ∧ s'.thr = upd s.thr t .getLock1 := by
  revert hs
  fun_cases step s lb <;> rintro ⟨⟩
  any_goals exact Or.inl rfl
  any_goals exact Or.inr ⟨_, by simp_all, rfl⟩
  all_goals exact ⟨_, rfl, by simp_all [TPc.rank]⟩

/-- **Every step of a helper thread moves it strictly forward** and leaves the program points of
the other threads alone. -/
theorem C17_helper_moves_forward (s s' : St) (lb : Label) (t : Nat) (hl : lb.thread = some t)
    (hs : step s lb = some s') :
    (s.thr t).rank < (s'.thr t).rank ∧ ∀ u, u ≠ t → s'.thr u = s.thr u := by
  have := step_thr hs
  rw [hl] at this
  obtain ⟨p', hthr, -, hlt⟩ := this
  rw [hthr]
  exact ⟨by simpa [upd] using hlt, fun u hu => by simp [upd, hu]⟩

/-- No step takes an awaitable backwards (not scheduled, scheduled, finished). -/
theorem C17_awaitable_moves_forward (s s' : St) (lb : Label) (c : Nat) (hs : step s lb = some s') :
    (s.aw c).rank ≤ (s'.aw c).rank := by
  revert hs
  fun_cases step s lb <;> rintro ⟨⟩
  any_goals exact Nat.le_refl _
  -- `presched`, `schedule`, `runStart` and `awRun` are left: they write `aw` at one place, and only to go forward
  all_goals (repeat' split)
  any_goals exact Nat.le_refl _
  all_goals exact upd_mono Aw.rank (by simp [*, Aw.rank]) c

/-- Once the borrowed thread is done and the awaitable has finished the borrowing caller can
return - nothing else is waited for. -/
theorem C17_borrow_returns (s : St) (c t : Nat) (hw : s.callers c = .waitPool t)
    (hd : s.thr t = .done) (hf : s.aw c = .finished) : (step s (.ret c)).isSome = true := by
  simp [step, hw, hd, hf]

/-- The hypotheses of `C17_helpers_never_stuck` are met by a state in which one thread runs the
target and two others wait for the two locks. -/
example : ∃ s, accepts {}
    [.call 0, .readRunning 0 false, .readClosed 0 false, .spawnBorrow 0 10,
     .get1 10 false, .createAcq 10, .get2 10 false, .createRel 10, .lockAcq 10, .runStart 10,
     .spawnForever 11, .get1 11 true] = some s ∧
    s.closed = false ∧ (s.thr 11).live = true ∧ s.holder 0 = some 10 := by
  refine ⟨_, rfl, ?_⟩
  decide


def ownSteps (t : Nat) : List Label → Nat
  | [] => 0
  | lb :: ls => (if lb.thread = some t then 1 else 0) + ownSteps t ls

theorem rank_mono (s s' : St) (lb : Label) (t : Nat) (hs : step s lb = some s') :
    (s.thr t).rank ≤ (s'.thr t).rank := by
  have st := step_thr hs
  split at st
  · obtain ⟨p', hthr, -, hlt⟩ := st
    exact hthr ▸ upd_mono TPc.rank (Nat.le_of_lt hlt) t
  · rcases st with hthr | ⟨u, hu, hthr⟩ <;> rw [hthr]
    · exact Nat.le_refl _
    · exact upd_mono TPc.rank (by simp [hu, TPc.rank]) t

/-- `max 1`: a thread's first own step starts from rank at least 1 (it has been spawned); hence eight, not nine. -/
theorem ownSteps_le (t : Nat) : ∀ (ls : List Label) (s s' : St), accepts s ls = some s' →
    ownSteps t ls + max 1 (s.thr t).rank ≤ max 1 (s'.thr t).rank
  | [], _, _, h => by cases h; simp [ownSteps]
  | lb :: ls, s, s', h => by
    simp only [accepts] at h
    split at h
    · rename_i s1 h1
      have ih := ownSteps_le t ls s1 s' h
      simp only [ownSteps]
      split
      · rename_i ho
        have st := step_thr h1
        rw [ho] at st
        obtain ⟨p', hthr, hge, hlt⟩ := st
        rw [hthr] at ih
        simp only [upd, if_true] at ih
        omega
      · have := rank_mono s s1 lb t h1
        omega
    · cases h

theorem rank_le_nine (p : TPc) : p.rank ≤ 9 := by cases p <;> simp [TPc.rank]

/-- **Bounded.** A helper thread takes at most eight steps in any execution (`spawnBorrow` / `spawnForever` put it
at rank 1, `done` is rank 9). -/
theorem C17_helper_steps_bounded (ls : List Label) (s : St) (hs : accepts {} ls = some s) (t : Nat) :
    ownSteps t ls ≤ 8 := by
  have h9 := rank_le_nine (s.thr t)
  have := ownSteps_le t ls {} s hs
  omega


/-- **No lock is left behind.** A helper thread that has finished (or was never started) holds neither
the loop lock nor the creation lock. -/
theorem C17_no_lock_left_behind (ls : List Label) (s : St) (hs : accepts {} ls = some s) (t : Nat)
    (hd : (s.thr t).live = false) : (∀ l, s.holder l ≠ some t) ∧ s.createHolder ≠ some t := by
  have hi := inv_of_accepts hs
  constructor
  · intro l hl
    have := hi.holderJust l t hl
    cases hp : s.thr t <;> simp [hp, TPc.holdsLock, TPc.live] at this hd
  · intro hc
    have := hi.createJust t hc
    cases hp : s.thr t <;> simp [hp, TPc.inCreate, TPc.live] at this hd

end AiutiVerif.CrossLoop
