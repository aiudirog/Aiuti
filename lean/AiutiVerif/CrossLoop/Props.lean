import AiutiVerif.CrossLoop.Model
import AiutiVerif.Core.ListLemmas
/-!
# C17 — cross-loop awaiting: one runner per loop, on the target loop, and the F7 counter-example
-/
namespace AiutiVerif.CrossLoop

def TPc.isRunning : TPc → Bool
  | .running _ => true
  | _ => false

/-- The shared variables are what the helper threads' program points say (`holder`, `runners`,
`createHolder`: a clause for each direction). -/
structure Inv (s : St) : Prop where
  /-- every helper thread that has a lock object has *the* lock object of the loop -/
  lockTable : ∀ t l, (s.thr t).lockOf = some l → s.table = some l
  holderJust : ∀ l t, s.holder l = some t → (s.thr t).holdsLock = some l
  holdsHolder : ∀ t l, (s.thr t).holdsLock = some l → s.holder l = some t
  runIn : ∀ t, t ∈ s.runners → (s.thr t).isRunning = true
  inRun : ∀ t, (s.thr t).isRunning = true → t ∈ s.runners
  nodup : s.runners.Nodup
  createJust : ∀ t, s.createHolder = some t → (s.thr t).inCreate = true
  createOnly : ∀ t, (s.thr t).inCreate = true → s.createHolder = some t

theorem inv_init : Inv {} := by
  constructor <;> simp [TPc.lockOf, TPc.holdsLock, TPc.isRunning, TPc.inCreate]

/-- What the shared variables say about thread `u`, against four attributes of its program point. -/
structure AgreesV (table : Option Nat) (holder : Nat → Option Nat) (runners : List Nat)
    (createHolder : Option Nat) (u : Nat) (lockOf holdsLock : Option Nat) (isRunning inCreate : Bool) :
    Prop where
  table : ∀ l, lockOf = some l → table = some l
  holder : ∀ l, holder l = some u ↔ holdsLock = some l
  runner : u ∈ runners ↔ isRunning = true
  create : createHolder = some u ↔ inCreate = true

/-- Reducible on purpose: equal attributes and equal shared variables give the same proposition up to
unfolding, so `inv_step` reuses the unchanged fields as they are. -/
abbrev Agrees (s : St) (u : Nat) (p : TPc) : Prop :=
  AgreesV s.table s.holder s.runners s.createHolder u p.lockOf p.holdsLock p.isRunning p.inCreate

theorem Inv.agrees {s : St} (h : Inv s) (u : Nat) : Agrees s u (s.thr u) :=
  ⟨h.lockTable u, fun l => ⟨h.holderJust l u, h.holdsHolder u l⟩, ⟨h.runIn u, h.inRun u⟩,
    ⟨h.createJust u, h.createOnly u⟩⟩

theorem Inv.of_agrees {s : St} (ha : ∀ u, Agrees s u (s.thr u)) (hn : s.runners.Nodup) : Inv s :=
  ⟨fun u => (ha u).table, fun l u => ((ha u).holder l).mp, fun u l => ((ha u).holder l).mpr,
    fun u => (ha u).runner.mp, fun u => (ha u).runner.mpr, hn,
    fun u => (ha u).create.mp, fun u => (ha u).create.mpr⟩

/-- One thread moves from `p` to `p'`.  `Inv` is kept if the shared variables of `s'` agree with `t` at `p'` (`ht`) and
agree with every other thread at whatever point it stands (`ho`); both may use what `s` said about `t` at `p`. -/
theorem Inv.move {s s' : St} (h : Inv s) {t : Nat} {p p' : TPc} (hp : s.thr t = p)
    (hthr : s'.thr = upd s.thr t p') (ht : Agrees s t p → Agrees s' t p')
    (ho : Agrees s t p → ∀ u q, u ≠ t → Agrees s u q → Agrees s' u q)
    (hn : s'.runners.Nodup) : Inv s' := by
  have a := hp ▸ h.agrees t
  refine .of_agrees (fun u => ?_) hn
  rw [hthr]; unfold upd; split
  · subst_vars; exact ht a
  · exact ho a u _ ‹_› (h.agrees u)

theorem inv_step (s s' : St) (l : Label) (h : Inv s) (hs : step s l = some s') : Inv s' := by
  cases l <;> dsimp only [step] at hs
  -- steps of callers, of awaitables, `stopRequest` and `close` touch nothing the invariant reads
  case stopRequest | presched | call | readRunning | schedule | readClosed | awRun | ret | close =>
    repeat' split at hs
    all_goals cases hs
    all_goals exact .of_agrees h.agrees h.nodup
  -- a spawned thread claims nothing yet
  case spawnBorrow =>
    split at hs <;> cases hs
    rename_i hg
    exact h.move hg.2 rfl id (fun _ _ _ _ => id) h.nodup
  case spawnForever =>
    split at hs <;> cases hs
    rename_i hg
    exact h.move hg rfl id (fun _ _ _ _ => id) h.nodup
  -- a lock object read from the table is the table's
  case get1 t =>
    split at hs
    · rename_i hg
      split at hs <;> cases hs
      · rename_i l htb
        exact h.move hg rfl (fun a => ⟨fun _ e => e ▸ htb, a.holder, a.runner, a.create⟩)
          (fun _ _ _ _ => id) h.nodup
      · exact h.move hg rfl id (fun _ _ _ _ => id) h.nodup
    · cases hs
  case get2 t =>
    split at hs
    · rename_i hg
      split at hs <;> cases hs
      · rename_i l htb
        exact h.move hg rfl (fun a => ⟨fun _ e => e ▸ htb, a.holder, a.runner, a.create⟩)
          (fun _ _ _ _ => id) h.nodup
      · -- the table was empty, so no thread had a lock object
        rename_i htb
        exact h.move hg rfl (fun a => ⟨fun _ e => e, a.holder, a.runner, a.create⟩)
          (fun _ _ _ _ b => ⟨fun l e => (nomatch htb.symm.trans (b.table l e)), b.holder, b.runner, b.create⟩)
          h.nodup
    · cases hs
  -- the creation lock: taken when free, given up by its holder, so nobody else is concerned
  case createAcq t =>
    split at hs <;> cases hs
    rename_i hg
    exact h.move hg.1 rfl (fun a => ⟨a.table, a.holder, a.runner, iff_of_true rfl rfl⟩)
      (fun _ u _ hu b => ⟨b.table, b.holder, b.runner, by rw [← b.create, hg.2]; simp [Ne.symm hu]⟩) h.nodup
  case createRel t =>
    split at hs <;> cases hs
    rename_i l hp
    exact h.move hp rfl (fun a => ⟨a.table, a.holder, a.runner, by simp [TPc.inCreate]⟩)
      (fun a u _ hu b => ⟨b.table, b.holder, b.runner,
        by rw [← b.create, a.create.mpr rfl]; simp [Ne.symm hu]⟩) h.nodup
  -- the loop lock: likewise
  case lockAcq t =>
    split at hs
    · rename_i l hp
      split at hs <;> cases hs
      rename_i hh
      refine h.move hp rfl (fun a => ⟨a.table, fun l' => ?_, a.runner, a.create⟩)
        (fun _ u _ hu b => ⟨b.table, fun l' => ?_, b.runner, b.create⟩) h.nodup
      · simp only [upd]; split
        · subst_vars; exact iff_of_true rfl rfl
        · rename_i hne; simpa [TPc.holdsLock, Ne.symm hne] using a.holder l'
      · rw [← b.holder]; simp only [upd]; split
        · subst_vars; simp [hh, Ne.symm hu]
        · rfl
    · cases hs
  case lockRel t =>
    split at hs <;> cases hs
    rename_i l hp
    refine h.move hp rfl (fun a => ⟨fun _ e => (nomatch e), fun l' => ?_, a.runner, a.create⟩)
      (fun a u _ hu b => ⟨b.table, fun l' => ?_, b.runner, b.create⟩) h.nodup
    · simp only [upd]; split
      · simp [TPc.holdsLock]
      · rename_i hne; simpa [TPc.holdsLock, Ne.symm hne] using a.holder l'
    · rw [← b.holder]; simp only [upd]; split
      · subst_vars; rw [(a.holder _).mpr rfl]; simp [Ne.symm hu]
      · rfl
  -- a thread that is not yet `running` is not in `runners`
  case runStart t =>
    split at hs
    · rename_i l hp
      split at hs <;> cases hs
      have hnot : t ∉ s.runners := fun hm => by simpa [hp, TPc.isRunning] using h.runIn t hm
      exact h.move hp rfl (fun a => ⟨a.table, a.holder, by simp [TPc.isRunning], a.create⟩)
        (fun _ u _ hu b => ⟨b.table, b.holder, by simp [hu, b.runner], b.create⟩) (nodup_snoc h.nodup hnot)
    · cases hs
  case runEnd t =>
    split at hs
    · rename_i l hp
      simp only [Option.ite_none_right_eq_some, Option.some.injEq] at hs
      obtain ⟨-, rfl⟩ := hs
      exact h.move hp rfl (fun a => ⟨a.table, a.holder, by simp [TPc.isRunning], a.create⟩)
        (fun _ u _ hu b => ⟨b.table, b.holder, by simp [hu, b.runner], b.create⟩) (h.nodup.sublist List.filter_sublist)
    · cases hs

theorem accepts_preserves {P : St → Prop} (hstep : ∀ s s' l, P s → step s l = some s' → P s') (ls : List Label) :
    ∀ (s s' : St), P s → accepts s ls = some s' → P s' :=
  accepts_induct (fun _ => rfl) (fun s l ls => by rw [accepts]; cases step s l <;> rfl) hstep ls

theorem inv_reachable (ls : List Label) : ∀ (s s' : St), Inv s → accepts s ls = some s' → Inv s' :=
  accepts_preserves inv_step ls

theorem inv_of_accepts {ls : List Label} {s : St} (hs : accepts {} ls = some s) : Inv s :=
  inv_reachable ls {} s inv_init hs

/-- The double-checked creation of `_get_loop_lock` never hands out two lock objects for a live loop. -/
theorem C17_lock_unique (ls : List Label) (s : St) (hs : accepts {} ls = some s) (t u l l' : Nat)
    (ht : (s.thr t).lockOf = some l) (hu : (s.thr u).lockOf = some l') : l = l' := by
  have hi := inv_of_accepts hs
  exact Option.some.inj ((hi.lockTable t l ht).symm.trans (hi.lockTable u l' hu))

/-- **One runner.** `ensure_aw`, `run_aw_threadsafe` and `loop_in_thread` never have an event loop run by
two threads at once: at most one thread is inside `T.run_until_complete` / `T.run_forever`. -/
theorem C17_one_runner (ls : List Label) (s : St) (hs : accepts {} ls = some s) :
    s.runners.length ≤ 1 := by
  have hi := inv_of_accepts hs
  match hr : s.runners with
  | [] | [_] => simp
  | t :: u :: rest =>
    -- both would be `running` with the table's lock, which has one holder; but the list has no duplicates
    have nd := hr ▸ hi.nodup
    have rt := hi.runIn t (by simp [hr])
    have ru := hi.runIn u (by simp [hr])
    cases hpt : s.thr t <;> simp [hpt, TPc.isRunning] at rt
    cases hpu : s.thr u <;> simp [hpu, TPc.isRunning] at ru
    rename_i l l'
    obtain rfl : l = l' := C17_lock_unique ls s hs t u l l' (by rw [hpt]; rfl) (by rw [hpu]; rfl)
    obtain rfl : t = u := Option.some.inj ((hi.holdsHolder t l (by rw [hpt]; rfl)).symm.trans
      (hi.holdsHolder u l (by rw [hpu]; rfl)))
    simp at nd

/-- **On the target loop.** An awaitable handed to `ensure_aw` makes progress only while a
thread is running the target loop (it is never evaluated on the caller's loop or thread). -/
theorem C17_on_target (s s' : St) (c : Nat) (h : step s (.awRun c) = some s') :
    s.runners ≠ [] ∧ s.aw c = .scheduled ∧ s'.aw c = .finished := by
  simp only [step, Option.ite_none_right_eq_some, Option.some.injEq] at h
  obtain ⟨hg, rfl⟩ := h
  exact ⟨fun e => by simp [e] at hg, hg.1, by simp [upd]⟩

/-- **Transparent.** A call returns normally only once its own awaitable has finished. -/
theorem C17_transparent (s s' : St) (c : Nat) (h : step s (.ret c) = some s') :
    s.aw c = .finished ∧ s'.callers c = .returned true := by
  simp only [step] at h
  split at h <;> simp only [Option.ite_none_right_eq_some, Option.some.injEq, reduceCtorEq] at h
  all_goals
    obtain ⟨hf, rfl⟩ := h
    simp [upd, hf]

/-- The `RuntimeError` path is taken only for a closed target. -/
theorem C17_closed_raises (s s' : St) (c : Nat) (h : step s (.readClosed c true) = some s') :
    s.closed = true ∧ s'.callers c = .returned false := by
  simp only [step, Option.ite_none_right_eq_some, if_true, Option.some.injEq] at h
  obtain ⟨hg, rfl⟩ := h
  exact ⟨hg.2.symm, by simp [upd]⟩

/-- A helper thread that has finished (which is what `loop_in_thread`'s stop function waits for, `future.result()`)
has left `run_forever`; that it has released the loop lock is `C17_no_lock_left_behind`. -/
theorem C17_stopped_before_return (ls : List Label) (s : St) (hs : accepts {} ls = some s) (t : Nat)
    (hd : s.thr t = .done) : t ∉ s.runners := by
  intro hm
  simpa [hd, TPc.isRunning] using (inv_of_accepts hs).runIn t hm

/-- **Completion, partial.** A scheduled awaitable can run whenever some thread is running the target. -/
theorem C17_completes_partial (s : St) (c : Nat) (hsch : s.aw c = .scheduled) (hr : s.runners ≠ []) :
    (step s (.awRun c)).isSome = true := by
  simp [step, hsch, hr]

/-- The full completion clause ("every ensure_aw call completes when its awaitable does, also
when several callers target the same loop concurrently") is **false of the code** (finding F7):
caller 0 borrows the idle loop; caller 1 sees `is_running()` and proxies its awaitable onto it;
caller 0's awaitable finishes, the loop stops; caller 1's awaitable is scheduled on a loop
nobody is running: it can neither run nor return. -/
theorem C17_counterexample_borrowed_loop_stops :
    ∃ s, accepts {}
      [.call 0, .readRunning 0 false, .readClosed 0 false, .spawnBorrow 0 10,
       .get1 10 false, .createAcq 10, .get2 10 false, .createRel 10, .lockAcq 10, .runStart 10,
       .call 1, .readRunning 1 true, .awRun 0, .schedule 1, .runEnd 10, .lockRel 10, .ret 0] = some s ∧
      s.callers 1 = .waitProxy ∧ s.aw 1 = .scheduled ∧ s.runners = [] ∧
      s.callers 0 = .returned true ∧
      -- nothing can make caller 1's awaitable progress or let it return
      (step s (.awRun 1)).isSome = false ∧ (step s (.ret 1)).isSome = false := by
  refine ⟨_, rfl, ?_⟩
  decide

end AiutiVerif.CrossLoop
