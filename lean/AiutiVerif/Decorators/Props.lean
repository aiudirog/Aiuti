import AiutiVerif.Generated.Decorators
import AiutiVerif.Batcher.Model
/-!
# C15 — decorator-with-options forms configure exactly like the direct forms

`Generated/Decorators.lean` is **regenerated from `/repo/aiuti/asyncio.py` on every run**
(harness/comp/decorators.py, Tie B of DESIGN.md §4), so `C15_options_forwarded` is
re-checked against what the source says now: an option dropped from the `partial(...)` of the
options form, bound to another name, or not handed to the constructor makes `lake build` fail
at that theorem.

The second half of the property — a function decorated with `async_background_batcher` gives
every event loop its own independent batching — is about the registry
`batchers : WeakKeyDictionary[loop, AsyncBackgroundBatcher]`, modelled as a map from loop ids
to batcher machines.
-/
namespace AiutiVerif.Decorators
open AiutiVerif.Generated AiutiVerif.Batcher

/-- Every keyword-only option is re-bound to itself in the options form, is read in the
direct form, and (where there is an underlying constructor) is handed to it under its own name. -/
def forwarded (d : Deco) : Bool :=
  d.options.all fun o =>
    d.partialBinds.contains (o.1, o.1) && d.uses.contains o.1 &&
      (d.ctor == "" || d.ctorBinds.contains (o.1, o.1))

/-- Nothing else is bound: every keyword of the `partial` / constructor call is an option bound
to the parameter of the same name. -/
def nothingForeign (d : Deco) : Bool :=
  (d.partialBinds.all fun p => p.1 == p.2 && d.options.any (·.1 == p.1)) &&
  (d.ctorBinds.all fun p => p.1 == p.2 && d.options.any (·.1 == p.1))

theorem C15_options_forwarded :
    ∀ d ∈ decorators, forwarded d = true ∧ nothingForeign d = true := by decide

/-- The three decorators of the property are the ones the translator found, with the documented
options. -/
theorem C15_documented_options :
    decorators.map (fun d => (d.name, d.options.map (·.1))) =
      [("threadsafe_async_cache", ["cache"]),
       ("buffer_until_timeout", ["timeout"]),
       ("async_background_batcher",
        ["max_batch_size", "max_concurrent_batches", "batch_timeout", "retention_timeout"])] := by
  decide

/-- `batchers[loop]`, created on first use with the decorator's options (`s0`). -/
abbrev Registry := Nat → Option St

def regStep (s0 : St) (r : Registry) (li : Nat × In) : Registry :=
  fun l => if l = li.1 then some (applyIn ((r li.1).getD s0) li.2) else r l

/-- A stand-alone batcher fed only the inputs of one loop. -/
def alone (s0 : St) (o : Option St) (is : List In) : Option St :=
  is.foldl (fun o i => some (applyIn (o.getD s0) i)) o

/-- Any interleaving of calls from any number of loops (successively or concurrently — the
inputs of different loops in any order): the batcher of loop `l` is exactly a stand-alone
batcher that saw only `l`'s inputs. -/
theorem C15_per_loop_independent (s0 : St) (ins : List (Nat × In)) (l : Nat) :
    ∀ (r : Registry), (ins.foldl (regStep s0) r) l =
      alone s0 (r l) ((ins.filter (·.1 == l)).map (·.2)) := by
  induction ins with
  | nil => intro r; rfl
  | cons li rest ih =>
    intro r
    rw [List.foldl_cons, ih]
    by_cases h : li.1 = l
    · simp [regStep, alone, h]
    · simp [regStep, h, Ne.symm h]

/-- A step on loop `l` leaves every other loop's batcher untouched. -/
theorem C15_step_frame (s0 : St) (r : Registry) (l l' : Nat) (i : In) (h : l' ≠ l) :
    regStep s0 r (l, i) l' = r l' := by
  simp [regStep, h]

end AiutiVerif.Decorators
