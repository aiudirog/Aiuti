import AiutiVerif.FileLock.Model
/-!
# The Lock/RLock contract and the refinement relation

The contract (`specOp`), the relation `R`, and what `attempt`, `timedLoop` and `tlRelease` do when no
OS call fails.
-/
namespace AiutiVerif.FileLock

/-- Abstract state of one lock file: who holds it, through which object, how deep. -/
structure Hold where
  obj : Nat
  thr : Nat
  depth : Nat
  deriving DecidableEq, Repr

/-- The contract says an acquire by thread `t` through object `i` succeeds iff the lock is free,
or `t` already holds it through the same *reentrant* object. -/
def specAcqOk (reent : Nat → Bool) (h : Option Hold) (i t : Nat) : Bool :=
  match h with
  | none => true
  | some hd => hd.obj == i && hd.thr == t && reent i

def specOp (reent : Nat → Bool) (h : Option Hold) : Op → Option Hold × Res
  | .acq i t m =>
    if specAcqOk reent h i t then
      (some ⟨i, t, (match h with | some hd => hd.depth | none => 0) + 1⟩, .bool true)
    else (h, match m with | .blocking => .wouldBlock | _ => .bool false)
  | .rel i _ force =>
    match h with
    | some hd =>
      if hd.obj = i then
        (if force ∨ hd.depth ≤ 1 then none else some { hd with depth := hd.depth - 1 }, .unit)
      else (h, .unit)
    | none => (none, .unit)

/-- Clients release only what they hold ("releasing another thread's lock is outside the
contract"). -/
def InContract (h : Option Hold) : Op → Prop
  | .acq _ _ _ => True
  | .rel i t _ => ∀ hd, h = some hd → hd.obj = i → hd.thr = t

def Clean (o : Obj) : Prop := o.fd = none ∧ o.counter = 0 ∧ o.tlOwner = none ∧ o.tlDepth = 0

/-- Refinement relation between the concrete model state and the contract state (fault-free). -/
structure R (s : St) (h : Option Hold) : Prop where
  noFaults : s.faults = []
  fresh : ∀ f ∈ s.opened, f < s.nextFd
  free : h = none → (∀ i, Clean (s.objs i)) ∧ s.opened = [] ∧ s.holder = none
  held : ∀ hd, h = some hd → 1 ≤ hd.depth ∧ ∃ f,
    (s.objs hd.obj).fd = some f ∧ (s.objs hd.obj).counter = hd.depth ∧
    (s.objs hd.obj).tlOwner = some hd.thr ∧ (s.objs hd.obj).tlDepth = hd.depth ∧
    ((s.objs hd.obj).reentrant = false → hd.depth = 1) ∧
    s.opened = [f] ∧ s.holder = some f ∧ ∀ i, i ≠ hd.obj → Clean (s.objs i)

@[simp] theorem upd_same (f : Nat → Obj) (i : Nat) (o : Obj) : upd f i o i = o := by simp [upd]
@[simp] theorem upd_other (f : Nat → Obj) (i j : Nat) (o : Obj) (h : j ≠ i) : upd f i o j = f j := by
  simp [upd, h]
@[simp] theorem upd_upd (f : Nat → Obj) (i : Nat) (o o' : Obj) : upd (upd f i o) i o' = upd f i o' := by
  funext j; unfold upd; split <;> rfl
theorem upd_eq_self (f : Nat → Obj) (i : Nat) (o : Obj) (h : o = f i) : upd f i o = f := by
  funext j; unfold upd; split
  · subst_vars; rfl
  · rfl
theorem upd_reentrant (f : Nat → Obj) (i : Nat) (o : Obj) (h : o.reentrant = (f i).reentrant) (j : Nat) :
    (upd f i o j).reentrant = (f j).reentrant := by
  unfold upd; split
  · subst_vars; exact h
  · rfl

theorem specAcqOk_iff (reent : Nat → Bool) (h : Option Hold) (i t : Nat) :
    specAcqOk reent h i t = true ↔
      (h = none ∨ ∃ hd, h = some hd ∧ hd.obj = i ∧ hd.thr = t ∧ reent i = true) := by
  cases h <;> simp [specAcqOk, and_assoc]

theorem specOp_acq_true (reent : Nat → Bool) (h : Option Hold) (i t : Nat) (m : Mode) :
    (specOp reent h (.acq i t m)).2 = .bool true ↔ specAcqOk reent h i t = true := by
  cases hok : specAcqOk reent h i t <;> cases m <;> simp [specOp, hok]

theorem osCall_noFaults (s : St) (h : s.faults = []) :
    osCall s = ({ s with ncall := s.ncall + 1 }, false) := by
  simp [osCall, h]

theorem attempt_free (s : St) (i : Nat) (hf : s.faults = []) (hh : s.holder = none) :
    attempt s i =
      ({ s with ncall := s.ncall + 2, nextFd := s.nextFd + 1, opened := s.opened ++ [s.nextFd],
                holder := some s.nextFd,
                objs := upd s.objs i { (s.objs i) with fd := some s.nextFd } }, .yes) := by
  simp [attempt, osCall_noFaults, hf, hh]

theorem attempt_busy (s : St) (i : Nat) (hf : s.faults = []) (f : Nat) (hh : s.holder = some f)
    (hfresh : ∀ g ∈ s.opened, g < s.nextFd) :
    attempt s i = ({ s with ncall := s.ncall + 3, nextFd := s.nextFd + 1 }, .no) := by
  have hfil : s.opened.filter (· != s.nextFd) = s.opened :=
    List.filter_eq_self.mpr fun g hg => by simpa using Nat.ne_of_lt (hfresh g hg)
  simp [attempt, osCall_noFaults, hf, hh, List.filter_append, hfil]

theorem timedLoop_free (i tau start fuel : Nat) (s : St) (hf : s.faults = []) (hh : s.holder = none) :
    timedLoop i tau start (fuel + 1) s = attempt s i := by
  simp [timedLoop, attempt_free s i hf hh]

theorem timedLoop_busy (i tau start : Nat) : ∀ (fuel : Nat) (s : St), s.faults = [] →
    (∃ f, s.holder = some f) → (∀ g ∈ s.opened, g < s.nextFd) →
    ∃ n c t', timedLoop i tau start fuel s =
      ({ s with ncall := s.ncall + c, nextFd := s.nextFd + n, now := t' }, .no) := by
  intro fuel
  induction fuel with
  | zero => intro s _ _ _; exact ⟨0, 0, s.now, rfl⟩
  | succ k ih =>
    intro s hf ⟨f, hh⟩ hfresh
    unfold timedLoop
    rw [attempt_busy s i hf f hh hfresh]
    simp only []
    split
    · exact ⟨1, 3, s.now, rfl⟩
    · obtain ⟨n, c, t', h⟩ := ih { s with ncall := s.ncall + 3, nextFd := s.nextFd + 1, now := s.now + poll }
        hf ⟨f, hh⟩ (fun g hg => Nat.lt_succ_of_lt (hfresh g hg))
      exact ⟨n + 1, c + 3, t', by rw [h]; simp only [Nat.add_assoc, Nat.add_comm 1 n, Nat.add_comm 3 c]⟩

theorem tlRelease_owner (t : Nat) : ∀ (n : Nat) (o : Obj), o.tlOwner = some t → o.tlDepth = n + 1 →
    tlRelease o t (n + 1) = { o with tlDepth := 0, tlOwner := none }
  | 0, o, ho, hd => by simp [tlRelease, ho, hd]
  | n + 1, o, ho, hd => by
    rw [tlRelease]
    simp [ho, hd, tlRelease_owner t n]

end AiutiVerif.FileLock
