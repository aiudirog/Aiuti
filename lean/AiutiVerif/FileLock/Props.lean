import AiutiVerif.FileLock.Refine
/-!
# C12 — FileLock obeys the Lock/RLock contract and leaves no residue

All theorems are about the sequential model `FileLock/Model.lean` (after the F3 and F9
repairs), for **every** sequence of operations respecting the contract ("release only what you
hold"), any number of lock objects and threads on one lock file, reentrant or not, all three
acquire modes, forced and plain releases.  `R s h` relates a model state to the contract state
`h : Option Hold` (who holds the lock, through which object, how deep); the initial state
satisfies `R _ none`.
-/
namespace AiutiVerif.FileLock

/-- `is_locked` is true exactly for the object through which the lock is held. -/
theorem C12_is_locked_iff (s : St) (h : Option Hold) (i : Nat) (hr : R s h) :
    isLocked s i = true ↔ ∃ hd, h = some hd ∧ hd.obj = i := by
  cases h with
  | none =>
    obtain ⟨hclean, _, _⟩ := hr.free rfl
    simp [isLocked, (hclean i).1]
  | some hd =>
    obtain ⟨_, f, hfd, _, _, _, _, _, _, hothers⟩ := hr.held hd rfl
    by_cases hi : i = hd.obj
    · subst hi; simp [isLocked, hfd]
    · simp [isLocked, (hothers i hi).1, Ne.symm hi]

/-- No descriptor leak: exactly one descriptor of the lock file is open while the lock is held,
none otherwise. -/
theorem C12_no_fd_leak (s : St) (h : Option Hold) (hr : R s h) :
    s.opened.length = (if h.isSome then 1 else 0) := by
  cases h with
  | none => obtain ⟨_, hop, _⟩ := hr.free rfl; simp [hop]
  | some hd => obtain ⟨_, f, _, _, _, _, _, hop, _, _⟩ := hr.held hd rfl; simp [hop]

/-- **Refinement.** One operation of the model is one operation of the Lock/RLock contract:
same result, related states (and reentrancy flags never change). -/
theorem C12_refines_contract (s : St) (h : Option Hold) (op : Op) (hr : R s h)
    (hc : InContract h op) :
    (runOp s op).2 = (specOp (fun i => (s.objs i).reentrant) h op).2 ∧
    R (runOp s op).1 (specOp (fun i => (s.objs i).reentrant) h op).1 ∧
    (∀ j, ((runOp s op).1.objs j).reentrant = (s.objs j).reentrant) := by
  cases op with
  | acq i t m =>
    cases hok : specAcqOk (fun i => (s.objs i).reentrant) h i t with
    | true => simpa [runOp, specOp, hok] using acquire_ok s h i t m hr hok
    | false =>
      obtain ⟨n, c, t', he⟩ := acquire_refused s h i t m hr hok
      simp only [runOp, specOp, hok, he, Bool.false_eq_true, if_false]
      exact ⟨rfl, hr.counters n c t', fun _ => trivial⟩
  | rel i t force =>
    -- `is_locked` is false unless the lock is held through `i`; then the contract makes `t` the holder
    by_cases hi : ∃ hd, h = some hd ∧ hd.obj = i
    · obtain ⟨hd, rfl, rfl⟩ := hi
      obtain rfl : hd.thr = t := hc hd rfl rfl
      simpa [runOp, specOp] using release_held s force hd hr
    · have hfd : (s.objs i).fd = none := by
        simpa [isLocked] using mt (C12_is_locked_iff s h i hr).mp hi
      rw [runOp, release_unheld s i t force hfd]
      cases h with
      | none => exact ⟨rfl, hr, fun _ => rfl⟩
      | some hd =>
        have : hd.obj ≠ i := fun e => hi ⟨hd, rfl, e⟩
        simp only [specOp, this, if_false]
        exact ⟨trivial, hr, fun _ => trivial⟩

/-- `acquire` returns True exactly when the contract says the caller now holds the lock. -/
theorem C12_acquire_true_iff_held (s : St) (h : Option Hold) (i t : Nat) (m : Mode) (hr : R s h) :
    (acquire s i t m).2 = .bool true ↔
      (h = none ∨ ∃ hd, h = some hd ∧ hd.obj = i ∧ hd.thr = t ∧ (s.objs i).reentrant = true) := by
  rw [← specAcqOk_iff (fun i => (s.objs i).reentrant), ← specOp_acq_true _ h i t m]
  exact (C12_refines_contract s h (.acq i t m) hr trivial).1 ▸ Iff.rfl

/-- A refused acquire (`False`) leaves the objects, the open descriptors and the OS lock as they were (only counters
and the clock move: `acquire_refused`). -/
theorem C12_false_leaves_state (s : St) (h : Option Hold) (i t : Nat) (m : Mode) (hr : R s h)
    (hf : (acquire s i t m).2 = .bool false) :
    (acquire s i t m).1.objs = s.objs ∧ (acquire s i t m).1.opened = s.opened ∧
    (acquire s i t m).1.holder = s.holder := by
  cases hok : specAcqOk (fun i => (s.objs i).reentrant) h i t with
  | true => rw [(acquire_ok s h i t m hr hok).1] at hf; cases hf
  | false =>
    obtain ⟨n, c, t', he⟩ := acquire_refused s h i t m hr hok
    rw [he]; exact ⟨rfl, rfl, rfl⟩

/-- After the lock has been fully or forcibly released (contract state `none`) every thread
can acquire it again through every object, in every mode. -/
theorem C12_reacquirable (s : St) (i t : Nat) (m : Mode) (hr : R s none) :
    (acquire s i t m).2 = .bool true := (acquire_ok s none i t m hr rfl).1

/-- A forced release by the holder always ends in the free state, whatever the depth. -/
theorem C12_forced_release_frees (s : St) (hd : Hold) (hr : R s (some hd)) :
    R (release s hd.obj hd.thr true).1 none := by
  simpa using (release_held s true hd hr).2.1

/-- Releasing an unheld lock is a no-op (for any state at all). -/
theorem C12_unheld_release_noop (s : St) (i t : Nat) (force : Bool) (h : isLocked s i = false) :
    release s i t force = (s, .unit) :=
  release_unheld s i t force (by simpa [isLocked] using h)

theorem attempt_now (s : St) (i : Nat) : (attempt s i).1.now = s.now := by
  unfold attempt osCall
  simp only []
  split <;> (try split) <;> rfl

theorem cleanup_now (s : St) (i : Nat) : (cleanup s i).now = s.now := rfl

/-- The loop gives up at the first failed attempt later than `tau` after `start`, and sleeps `poll` between
attempts. -/
theorem timedLoop_now (i tau start : Nat) : ∀ (fuel : Nat) (s : St), s.now - start ≤ tau + poll →
    (timedLoop i tau start fuel s).1.now - start ≤ tau + poll := by
  intro fuel
  induction fuel with
  | zero => intro s h; exact h
  | succ k ih =>
    intro s h
    unfold timedLoop
    have hn := attempt_now s i
    split <;> rename_i s' ha <;> rw [ha] at hn <;> simp only [] at hn ⊢
    · omega
    · omega
    · split
      · show s'.now - start ≤ tau + poll; omega
      · exact ih { s' with now := s'.now + poll } (by simp; omega)

/-- A non-blocking acquire returns at once; a timed one within its timeout plus one poll interval
(virtual time; holds for every state, with or without injected faults). -/
theorem C12_time_bounds (s : St) (i t : Nat) :
    (acquire s i t .nonblocking).1.now = s.now ∧
    ∀ tau, (acquire s i t (.timed tau)).1.now ≤ s.now + tau + poll := by
  constructor
  · unfold acquire
    simp only []
    split
    · rfl
    · split
      · rfl
      · have hn := attempt_now (lockTl s i t) i
        split <;> rename_i s' ha <;> rw [ha] at hn <;> exact hn
  · intro tau
    unfold acquire
    simp only []
    split
    · simp
    · split
      · simp; omega
      · have hb := timedLoop_now i tau s.now (tau / poll + 2) (lockTl s i t) (by simp)
        split <;> rename_i s' hl <;> rw [hl] at hb <;> simp only [cleanup_now] at hb ⊢ <;> omega

-- a nested, forced release followed by another object's acquire
example :
    let s0 : St := { objs := fun i => { reentrant := i == 0 } }
    let run := fun (ops : List Op) => (ops.foldl (fun (a : St × List Res) op =>
      let r := runOp a.1 op; (r.1, a.2 ++ [r.2])) (s0, [])).2
    run [.acq 0 7 .blocking, .acq 0 7 .nonblocking, .acq 1 8 (.timed 100), .acq 0 8 .nonblocking,
         .rel 0 7 true, .acq 1 8 .nonblocking, .acq 1 8 .nonblocking, .rel 1 8 false, .acq 0 7 .blocking] =
      [.bool true, .bool true, .bool false, .bool false, .unit, .bool true, .bool false, .unit,
       .bool true] := by decide

end AiutiVerif.FileLock
