import AiutiVerif.FileLock.Contract
/-!
# The sequential FileLock model refines the Lock/RLock contract

`acquire` has four ways through it when no OS call fails, each an equation of its own (`acquire_blocked`,
`acquire_nested`, `acquire_os_free`, `acquire_os_busy`); under `R` the contract's decision `specAcqOk`
selects the way (`acquire_ok`, `acquire_refused`).
-/
namespace AiutiVerif.FileLock

theorem R.mk_held (s : St) (hd : Hold) (f : Nat) (h0 : s.faults = []) (h1 : 1 ≤ hd.depth)
    (h2 : (s.objs hd.obj).fd = some f) (h3 : (s.objs hd.obj).counter = hd.depth)
    (h4 : (s.objs hd.obj).tlOwner = some hd.thr) (h5 : (s.objs hd.obj).tlDepth = hd.depth)
    (h6 : (s.objs hd.obj).reentrant = false → hd.depth = 1) (h7 : s.opened = [f])
    (h8 : f < s.nextFd) (h9 : s.holder = some f) (h10 : ∀ i, i ≠ hd.obj → Clean (s.objs i)) :
    R s (some hd) := by
  refine ⟨h0, by simpa [h7] using h8, (fun h => by cases h), ?_⟩
  intro hd' hhd'; cases hhd'
  exact ⟨h1, f, h2, h3, h4, h5, h6, h7, h9, h10⟩

theorem R.mk_free (s : St) (h0 : s.faults = []) (h1 : ∀ i, Clean (s.objs i)) (h2 : s.opened = [])
    (h3 : s.holder = none) : R s none :=
  ⟨h0, by simp [h2], fun _ => ⟨h1, h2, h3⟩, fun hd h => by cases h⟩

theorem R.counters {s : St} {h : Option Hold} (hr : R s h) (n c t' : Nat) :
    R { s with ncall := c, nextFd := s.nextFd + n, now := t' } h :=
  ⟨hr.noFaults, fun f hm => Nat.lt_add_right n (hr.fresh f hm), hr.free, hr.held⟩

/-- The state after `acquire` has taken the thread lock and counted the entry. -/
abbrev lockTl (s : St) (i t : Nat) : St :=
  { s with objs := upd s.objs i { (s.objs i) with
      tlOwner := some t, tlDepth := (s.objs i).tlDepth + 1, counter := (s.objs i).counter + 1 } }

theorem acquire_blocked (s : St) (i t : Nat) (m : Mode) (h : tlFree (s.objs i) t = false) :
    acquire s i t m = match m with
      | .nonblocking => (s, .bool false)
      | .timed tau => ({ s with now := s.now + tau }, .bool false)
      | .blocking => (s, .wouldBlock) := by
  cases m <;> simp [acquire, h]

/-- `if self.is_locked: return True`. -/
theorem acquire_nested (s : St) (i t : Nat) (m : Mode) (h : tlFree (s.objs i) t = true)
    (f : Nat) (hfd : (s.objs i).fd = some f) :
    acquire s i t m = (lockTl s i t, .bool true) := by
  cases m <;> simp [acquire, h, hfd]

theorem acquire_os_free (s : St) (i t : Nat) (m : Mode) (h : tlFree (s.objs i) t = true)
    (hfd : (s.objs i).fd = none) (hf : s.faults = []) (hh : s.holder = none) :
    acquire s i t m = ({ s with
      ncall := s.ncall + 2, nextFd := s.nextFd + 1, opened := s.opened ++ [s.nextFd],
      holder := some s.nextFd,
      objs := upd s.objs i { (s.objs i) with
        tlOwner := some t, tlDepth := (s.objs i).tlDepth + 1, counter := (s.objs i).counter + 1,
        fd := some s.nextFd } }, .bool true) := by
  cases m <;> simp [acquire, h, hfd, timedLoop_free, attempt_free, hf, hh]

/-- Every attempt fails and closes its descriptor; the clean-up puts the pristine object back. -/
theorem acquire_os_busy (s : St) (i t : Nat) (m : Mode) (hc : Clean (s.objs i)) (hf : s.faults = [])
    (f : Nat) (hh : s.holder = some f) (hfresh : ∀ g ∈ s.opened, g < s.nextFd) :
    ∃ n c t', acquire s i t m = ({ s with ncall := c, nextFd := s.nextFd + n, now := t' },
      match m with | .blocking => .wouldBlock | _ => .bool false) := by
  obtain ⟨cfd, ccnt, cown, cdep⟩ := hc
  have hback : upd s.objs i { reentrant := (s.objs i).reentrant } = s.objs := by
    rw [upd_eq_self]; cases hq : s.objs i; simp_all
  unfold acquire
  rw [if_neg (by simp [tlFree, cown]), if_neg (by simp [cfd])]
  cases m with
  | blocking => exact ⟨0, s.ncall, s.now, by rw [if_pos (by simp [hh])]; rfl⟩
  | nonblocking =>
    refine ⟨1, s.ncall + 3, s.now, ?_⟩
    rw [attempt_busy (lockTl s i t) i hf f hh hfresh]
    simp [cleanup, cdep, ccnt, cfd, hback]
  | timed tau =>
    obtain ⟨n, c, t', hloop⟩ := timedLoop_busy i tau s.now (tau / poll + 2) (lockTl s i t) hf ⟨f, hh⟩ hfresh
    refine ⟨n, s.ncall + c, t', ?_⟩
    simp only []
    rw [hloop]
    simp [cleanup, cdep, ccnt, cfd, hback]

theorem acquire_ok (s : St) (h : Option Hold) (i t : Nat) (m : Mode) (hr : R s h)
    (hok : specAcqOk (fun i => (s.objs i).reentrant) h i t = true) :
    (acquire s i t m).2 = .bool true ∧
    R (acquire s i t m).1 (specOp (fun i => (s.objs i).reentrant) h (.acq i t m)).1 ∧
    (∀ j, ((acquire s i t m).1.objs j).reentrant = (s.objs j).reentrant) := by
  have hnf := hr.noFaults
  simp only [specOp, hok, if_true]
  rcases (specAcqOk_iff _ h i t).mp hok with rfl | ⟨hd, rfl, rfl, rfl, hre⟩
  · obtain ⟨hclean, hop, hhold⟩ := hr.free rfl
    obtain ⟨hfd, hcnt, hown, hdep⟩ := hclean i
    rw [acquire_os_free s i t m (by simp [tlFree, hown]) hfd hnf hhold]
    exact ⟨rfl, R.mk_held _ ⟨i, t, 1⟩ s.nextFd hnf (Nat.le_refl 1) (by simp) (by simp [hcnt]) (by simp)
      (by simp [hdep]) (fun _ => rfl) (by simp [hop]) (Nat.lt_succ_self _) rfl
      (fun j hj => by simpa [hj] using hclean j), upd_reentrant _ _ _ rfl⟩
  · obtain ⟨hdep, f, hfd, hcnt, hown, htd, hnr, hop, hhold, hothers⟩ := hr.held hd rfl
    rw [acquire_nested s hd.obj hd.thr m (by simp [tlFree, hown, hre]) f hfd]
    exact ⟨rfl, R.mk_held _ ⟨hd.obj, hd.thr, hd.depth + 1⟩ f hnf (Nat.le_add_left 1 _) (by simp [hfd])
      (by simp [hcnt]) (by simp) (by simp [htd]) (by simp [hre]) hop (hr.fresh f (by simp [hop])) hhold
      (fun j hj => by simpa [hj] using hothers j hj), upd_reentrant _ _ _ rfl⟩

/-- Either the thread lock of the holding object turns the caller away, or the OS lock does. -/
theorem acquire_refused (s : St) (h : Option Hold) (i t : Nat) (m : Mode) (hr : R s h)
    (hok : specAcqOk (fun i => (s.objs i).reentrant) h i t = false) :
    ∃ n c t', acquire s i t m = ({ s with ncall := c, nextFd := s.nextFd + n, now := t' },
      match m with | .blocking => .wouldBlock | _ => .bool false) := by
  cases h with
  | none => cases hok
  | some hd =>
    obtain ⟨hdep, f, hfd, hcnt, hown, htd, hnr, hop, hhold, hothers⟩ := hr.held hd rfl
    by_cases hi : hd.obj = i
    · subst hi
      rw [acquire_blocked s hd.obj t m (by simpa [tlFree, hown, specAcqOk, Bool.and_comm] using hok)]
      cases m with
      | timed tau => exact ⟨0, s.ncall, s.now + tau, rfl⟩
      | _ => exact ⟨0, s.ncall, s.now, rfl⟩
    · exact acquire_os_busy s i t m (hothers i (Ne.symm hi)) hr.noFaults f hhold hr.fresh

theorem release_unheld (s : St) (i t : Nat) (force : Bool) (h : (s.objs i).fd = none) :
    release s i t force = (s, .unit) := by
  simp [release, h]

theorem release_held (s : St) (force : Bool) (hd : Hold) (hr : R s (some hd)) :
    (release s hd.obj hd.thr force).2 = .unit ∧
    R (release s hd.obj hd.thr force).1
      (if force ∨ hd.depth ≤ 1 then none else some { hd with depth := hd.depth - 1 }) ∧
    (∀ j, ((release s hd.obj hd.thr force).1.objs j).reentrant = (s.objs j).reentrant) := by
  obtain ⟨hdep, f, hfd, hcnt, hown, htd, hnr, hop, hhold, hothers⟩ := hr.held hd rfl
  have hnf := hr.noFaults
  by_cases hcase : force = true ∨ hd.depth ≤ 1
  · -- everything is dropped: the thread lock is released `depth` times
    have hlev : 1 + (if force = true then hd.depth - 1 else 0) = (hd.depth - 1) + 1 := by
      cases force <;> simp_all <;> omega
    have hcond : hd.depth - 1 = 0 ∨ force = true := hcase.symm.imp_left (by omega)
    rw [if_pos hcase]
    simp only [release, hfd, hcnt, hcond, if_true, osCall_noFaults, hnf, Bool.false_eq_true,
      if_false, hhold, hlev]
    rw [tlRelease_owner hd.thr _ _ (by simp [hown]) (by simp [htd]; omega)]
    exact ⟨trivial, R.mk_free _ rfl (fun j => by
        by_cases hj : j = hd.obj
        · subst hj; simp [Clean]
        · simpa [hj] using hothers j hj) (by simp [hop]) (by simp), upd_reentrant _ _ _ rfl⟩
  · -- an inner release of a reentrant lock
    have hf : force = false := Bool.eq_false_iff.mpr fun h => hcase (.inl h)
    have hne : ¬ hd.depth - 1 = 0 := by omega
    have hre : (s.objs hd.obj).reentrant = true := by
      cases hq : (s.objs hd.obj).reentrant with
      | true => rfl
      | false => have := hnr hq; omega
    rw [if_neg hcase]
    simp only [release, hfd, hcnt, hf, tlRelease, hown, htd, hne, Bool.false_eq_true, or_self, if_false,
      Nat.add_zero, Option.isNone_some, ne_eq, not_true_eq_false, and_false]
    exact ⟨trivial, R.mk_held _ ⟨hd.obj, hd.thr, hd.depth - 1⟩ f hnf (by show 1 ≤ hd.depth - 1; omega)
      (by simp) (by simp) (by simp) (by simp) (by simp [hre]) hop (hr.fresh f (by simp [hop])) hhold
      (fun j hj => by simpa [hj] using hothers j hj), upd_reentrant _ _ _ rfl⟩

end AiutiVerif.FileLock
