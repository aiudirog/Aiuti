import AiutiVerif.FileLock.SmallProps
/-!
# C12 under contention — the Lock contract on the small-step model (every interleaving)

`C12_refines_contract` (`Props.lean`) is about the sequential model: one call at a time.  The
clauses of the contract that can only go wrong *between* threads - a thread let in while the holder
is still inside `release()`, a thread lock left owned by a thread that has returned - are stated
here about the small-step model of `Small.lean`, for every interleaving (with crashes), as corollaries
of the invariant of `SmallInv.lean`.
-/
namespace AiutiVerif.FileLock.Small

/-- A thread inside its critical section holds through an object whose `is_locked` is true, which owns
its thread lock for that thread and whose descriptor holds the OS lock. -/
theorem C12_inside_is_locked (reent : Nat → Bool) (pt po : Nat → Nat) (ls : List Label) (s : St)
    (hs : accepts (init reent pt po) ls = some s) (t : Nat) (ht : (s.thr t).inCS = true) :
    ∃ o, (s.thr t).holds = some o ∧ (s.objs o).fd.isSome = true ∧ (s.objs o).tlOwner = some t ∧
      s.holder = (s.objs o).fd ∧ 1 ≤ (s.objs o).counter := by
  have hi := inv_of_accepts hs
  obtain ⟨o, hh⟩ := Option.isSome_iff_exists.mp (hi.csHold t ht).1
  have hc := hi.holdCnt t o hh
  exact ⟨o, hh, (hi.holdFd t o hh).1, hi.holdOwn t o hh, (hi.holdFd t o hh).2, by omega⟩

/-- No residue: a thread that is outside `acquire` / `release` and does not hold owns no object's thread
lock, whatever the calls it made returned. -/
theorem C12_thread_lock_not_left_behind (reent : Nat → Bool) (pt po : Nat → Nat) (ls : List Label)
    (s : St) (hs : accepts (init reent pt po) ls = some s) (t : Nat)
    (hpc : (s.thr t).pc = .idle ∨ (s.thr t).pc = .dead) (hh : (s.thr t).holds = none) (o : Nat) :
    (s.objs o).tlOwner ≠ some t := by
  have hi := inv_of_accepts hs
  intro ho
  have := hi.ownJust o t ho
  rcases hpc with hpc | hpc <;> simp [hh, hpc, Pc.acqObj, Pc.relObj] at this

theorem C12_unowned_is_pristine (reent : Nat → Bool) (pt po : Nat → Nat) (ls : List Label) (s : St)
    (hs : accepts (init reent pt po) ls = some s) (o : Nat) (ho : (s.objs o).tlOwner = none) :
    (s.objs o).counter = 0 ∧ (s.objs o).tlDepth = 0 ∧ (s.objs o).fd = none :=
  (inv_of_accepts hs).freeSt o ho

/-- From every reachable state in which nothing holds the OS lock (a hypothesis: no theorem here concludes it
after a release) anybody can acquire through an object whose thread lock is free: the conclusion of
`C13_available_after_kill`, its hypothesis on the object supplied by `C12_unowned_is_pristine`. -/
theorem C12_reacquirable_under_contention (reent : Nat → Bool) (pt po : Nat → Nat) (ls : List Label)
    (s : St) (hs : accepts (init reent pt po) ls = some s) (t o : Nat)
    (ho : (s.objs o).tlOwner = none) (hfree : s.holder = none)
    (hth : s.thr t = { pc := .idle, holds := none, depth := 0, inCS := false })
    (hp : s.procT t = s.procO o) :
    ∃ s', accepts s [.tlAcq t o true, .osOpen t true, .flock t true] = some s' ∧
      (s'.thr t).holds = some o ∧ s'.holder = (s'.objs o).fd ∧ (s'.objs o).fd.isSome = true :=
  C13_available_after_kill s t o hfree hth
    ⟨ho, (C12_unowned_is_pristine reent pt po ls s hs o ho).2.2⟩ hp

/-- **Nobody is let in through an object while a thread is inside `acquire` or `release` on it**: the
thread lock is given back only as the last step of `release` and is held throughout `acquire` - so the
`is_locked` short-cut of a nested acquire can never be taken by another thread in the window in which
the descriptor is still set but the OS lock is being dropped. -/
theorem C12_nobody_enters_during_a_call (reent : Nat → Bool) (pt po : Nat → Nat) (ls : List Label)
    (s : St) (hs : accepts (init reent pt po) ls = some s) (t u o : Nat)
    (hin : (s.thr t).pc.relObj = some o ∨ (s.thr t).pc.acqObj = some o) (hne : u ≠ t) :
    step s (.tlAcq u o true) = none := by
  have hown := ((inv_of_accepts hs).link t o).own (.inr hin.symm)
  simp [step, tlFree, hown, hne.symm]

/-- The labels of thread `t`'s own steps inside a call. -/
def Label.ownStepOf (t : Nat) : Label → Bool
  | .osOpen u _ | .flock u _ | .closeA u | .giveUp u | .retry u | .unlock u | .closeR u | .tlRel u =>
    u == t
  | _ => false

/-- A thread inside `acquire` or `release` always has a step of its own enabled: the calls have no internal
waiting other than the kernel's `flock`, which in the model is the choice between the two `flock` labels. -/
theorem C12_calls_never_stuck (reent : Nat → Bool) (pt po : Nat → Nat) (ls : List Label) (s : St)
    (hs : accepts (init reent pt po) ls = some s) (t : Nat)
    (h1 : (s.thr t).pc ≠ .idle) (h2 : (s.thr t).pc ≠ .dead) :
    ∃ lb : Label, lb.ownStepOf t = true ∧ (step s lb).isSome = true := by
  have hi := inv_of_accepts hs
  cases hp : (s.thr t).pc with
  | idle => exact absurd hp h1
  | dead => exact absurd hp h2
  | acqOpen => exact ⟨.osOpen t true, by simp [Label.ownStepOf, step, hp]⟩
  | acqLock => exact ⟨.flock t false, by simp [Label.ownStepOf, step, hp]⟩
  | acqClose => exact ⟨.closeA t, by simp [Label.ownStepOf, step, hp]⟩
  | acqDecide => exact ⟨.giveUp t, by simp [Label.ownStepOf, step, hp]⟩
  | relUnlock => exact ⟨.unlock t, by simp [Label.ownStepOf, step, hp]⟩
  | relClose => exact ⟨.closeR t, by simp [Label.ownStepOf, step, hp]⟩
  | relTl o lv =>
    have := (hi.relSt t o (by rw [hp]; rfl)).2
    simp only [hp, Pc.pend] at this
    have hne : lv ≠ 0 := by omega
    exact ⟨.tlRel t, by simp [Label.ownStepOf, step, hp, hne]⟩

-- thread 1 waits on the thread lock of the object thread 0 is releasing
example :
    let s0 := init (fun _ => false) (fun _ => 0) (fun _ => 0)
    ∃ s, accepts s0 [.tlAcq 0 0 true, .osOpen 0 true, .flock 0 true, .enter 0, .exit 0,
                     .relBegin 0 0 false, .tlAcq 1 0 false, .unlock 0] = some s ∧
      (s.thr 0).pc ≠ .idle ∧ (s.thr 0).pc ≠ .dead ∧ (s.objs 0).tlOwner = some 0 ∧
      -- thread 1 cannot be let in through this object while thread 0 is inside release()
      (step s (.tlAcq 1 0 true)).isSome = false := by
  refine ⟨_, rfl, ?_⟩
  decide

end AiutiVerif.FileLock.Small
