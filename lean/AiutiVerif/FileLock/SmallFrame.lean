import AiutiVerif.FileLock.SmallInv
/-!
# The two layers of `Inv`, and its frame rule

`Inv` describes a partial matching: thread `t` is *attached* to object `o` (holds through it, or is
inside `acquire` / `release` on it) exactly when `t` owns `o`'s thread lock.  Its clauses are what
holds of one pair (`Link`, thirteen; the three on processes travel as `proc` in `Inv.of_link`) and the
bookkeeping of descriptors (`Descr`, ten).  Every step but `kill` rewrites one thread and at most the
object it is attached to, so nothing about another pair changes (`Inv.frame`): a label has to show the
`Link` of the new pair and where its descriptors come from (`Moved`).
-/
namespace AiutiVerif.FileLock.Small

@[simp] theorem upd_same {α : Type} (f : Nat → α) (a : Nat) (b : α) : upd f a b a = b := if_pos rfl
theorem upd_other {α : Type} (f : Nat → α) {a x : Nat} (b : α) (h : x ≠ a) : upd f a b x = f x := if_neg h

theorem Pc.relObj_of_relTlObj (p : Pc) (o : Nat) (h : p.relTlObj = some o) : p.relObj = some o := by
  cases p <;> simp_all [Pc.relTlObj, Pc.relObj]
theorem Pc.relObj_of_acqObj (p : Pc) (o : Nat) (h : p.acqObj = some o) : p.relObj = none := by
  cases p <;> simp_all [Pc.acqObj, Pc.relObj]

def Thread.att (th : Thread) (o : Nat) : Prop :=
  th.holds = some o ∨ th.pc.acqObj = some o ∨ th.pc.relObj = some o

/-- `hd`: the descriptor that holds the OS lock. -/
structure Link (hd : Option Nat) (t : Nat) (th : Thread) (o : Nat) (ob : Obj) : Prop where
  att : ob.tlOwner = some t → th.att o
  own : th.att o → ob.tlOwner = some t
  hold : th.holds = some o → ob.fd.isSome = true ∧ hd = ob.fd ∧ ob.counter = th.depth ∧ 1 ≤ th.depth ∧
    ob.tlDepth = th.depth + (if th.pc.relObj = some o then th.pc.pend else 0) ∧
    (th.pc = .idle ∨ th.pc = .relTl o 1)
  acq : th.pc.acqObj = some o → ob.fd = none ∧ ob.counter = 1 ∧ th.holds = none ∧ ob.tlDepth = 1
  rel : th.pc.relObj = some o → 1 ≤ th.pc.pend ∧ (th.holds ≠ none → th.holds = some o) ∧
    (th.holds = none → ob.fd = none ∧ ob.tlDepth = th.pc.pend ∧ (th.pc.relTlObj = some o → ob.counter = 0))
  free : ob.tlOwner = none → ob.counter = 0 ∧ ob.tlDepth = 0 ∧ ob.fd = none
  cs : th.inCS = true → th.holds.isSome = true ∧ th.pc = .idle

theorem Link.of_not_att {hd : Option Nat} {t o : Nat} {th : Thread} {ob : Obj} (a : ¬ th.att o)
    (own : ob.tlOwner ≠ some t) (free : ob.tlOwner = none → ob.counter = 0 ∧ ob.tlDepth = 0 ∧ ob.fd = none)
    (cs : th.inCS = true → th.holds.isSome = true ∧ th.pc = .idle) : Link hd t th o ob :=
  ⟨fun e => absurd e own, fun e => absurd e a, fun e => absurd (.inl e) a, fun e => absurd (.inr (.inl e)) a,
    fun e => absurd (.inr (.inr e)) a, free, cs⟩

structure Descr (s : St) : Prop where
  fdLt : ∀ o f, (s.objs o).fd = some f → f < s.nextFd
  acqFdLt : ∀ t f, (s.thr t).pc.acqFd = some f → f < s.nextFd
  relFdLt : ∀ t f, (s.thr t).pc.relFd = some f → f < s.nextFd
  fdInj : ∀ o o' f, (s.objs o).fd = some f → (s.objs o').fd = some f → o = o'
  fdAcq : ∀ o t f, (s.objs o).fd = some f → (s.thr t).pc.acqFd ≠ some f
  fdRel : ∀ o t f, (s.objs o).fd = some f → (s.thr t).pc.relFd ≠ some f
  acqInj : ∀ t u f, (s.thr t).pc.acqFd = some f → (s.thr u).pc.acqFd = some f → t = u
  acqRel : ∀ t u f, (s.thr t).pc.acqFd = some f → (s.thr u).pc.relFd ≠ some f
  procFd : ∀ o f, (s.objs o).fd = some f → s.fdProc f = s.procO o
  procAcqFd : ∀ t f, (s.thr t).pc.acqFd = some f → s.fdProc f = s.procT t

variable {s s' : St}

theorem Inv.link (h : Inv s) (t o : Nat) : Link s.holder t (s.thr t) o (s.objs o) where
  att := h.ownJust o t
  own a := a.elim (h.holdOwn t o) fun a => a.elim (fun a => (h.acqSt t o a).1) fun a => (h.relSt t o a).1
  hold hh := ⟨(h.holdFd t o hh).1, (h.holdFd t o hh).2, (h.holdCnt t o hh).1, (h.holdCnt t o hh).2,
    h.holdDepth t o hh, h.holdPc t o hh⟩
  acq ha := (h.acqSt t o ha).2
  rel hr := ⟨(h.relSt t o hr).2, h.relKeep t o hr, fun hn => ⟨(h.relFree t o hr hn).1, (h.relFree t o hr hn).2,
    fun hl => h.relTlCnt t o hl hn⟩⟩
  free := h.freeSt o
  cs := h.csHold t

theorem Inv.descr (h : Inv s) : Descr s := { h with }

theorem Inv.proc_of_att (h : Inv s) {t o : Nat} (a : (s.thr t).att o) : s.procT t = s.procO o :=
  a.elim (h.procHold t o) fun a => a.elim (h.procAcq t o) (h.procRel t o)

theorem Inv.of_link (link : ∀ t o, Link s.holder t (s.thr t) o (s.objs o))
    (proc : ∀ t o, (s.thr t).att o → s.procT t = s.procO o) (d : Descr s) : Inv s :=
  { d with
    ownJust := fun o t => (link t o).att
    holdOwn := fun t o a => (link t o).own (.inl a)
    holdFd := fun t o a => have l := (link t o).hold a; ⟨l.1, l.2.1⟩
    holdCnt := fun t o a => have l := (link t o).hold a; ⟨l.2.2.1, l.2.2.2.1⟩
    holdDepth := fun t o a => ((link t o).hold a).2.2.2.2.1
    holdPc := fun t o a => ((link t o).hold a).2.2.2.2.2
    acqSt := fun t o a => ⟨(link t o).own (.inr (.inl a)), (link t o).acq a⟩
    relSt := fun t o a => ⟨(link t o).own (.inr (.inr a)), ((link t o).rel a).1⟩
    relFree := fun t o a hn => have l := ((link t o).rel a).2.2 hn; ⟨l.1, l.2.1⟩
    relKeep := fun t o a => ((link t o).rel a).2.1
    relTlCnt := fun t o a hn => (((link t o).rel (Pc.relObj_of_relTlObj _ _ a)).2.2 hn).2.2 a
    procHold := fun t o a => proc t o (.inl a)
    procAcq := fun t o a => proc t o (.inr (.inl a))
    procRel := fun t o a => proc t o (.inr (.inr a))
    -- `free` speaks of the object only and `cs` of the thread only: any index does for the other
    freeSt := fun o => (link 0 o).free
    csHold := fun t => (link t 0).cs }

theorem Inv.att_unique (h : Inv s) {t o o' : Nat} (a : (s.thr t).att o) (a' : (s.thr t).att o') : o = o' := by
  have : ∀ o, (s.thr t).pc.acqObj = some o → (s.thr t).holds = none := fun o a => (h.acqSt t o a).2.2.2.1
  have := Pc.relObj_of_acqObj (s.thr t).pc
  have := h.relKeep t
  unfold Thread.att at a a'
  grind

/-- **Descriptors only move**: from `t`'s `acquire` into its object `o`, from `o` into `t`'s `release`,
leaving the slot behind empty; or a new one appears in `t`'s `acquire`. -/
theorem Descr.moved (d : Descr s) (t o : Nat) (next : s.nextFd ≤ s'.nextFd)
    (proc : ∀ f, f < s.nextFd → s'.fdProc f = s.fdProc f) (hpT : s'.procT = s.procT) (hpO : s'.procO = s.procO)
    (fd : ∀ o' f, (s'.objs o').fd = some f → (s.objs o').fd = some f ∨
      (o' = o ∧ (s.thr t).pc.acqFd = some f ∧ (s'.thr t).pc.acqFd = none ∧ s.procT t = s.procO o))
    (acq : ∀ u f, (s'.thr u).pc.acqFd = some f → (s.thr u).pc.acqFd = some f ∨
      (u = t ∧ s.nextFd ≤ f ∧ f < s'.nextFd ∧ s'.fdProc f = s.procT t))
    (rel : ∀ u f, (s'.thr u).pc.relFd = some f → (s.thr u).pc.relFd = some f ∨
      (u = t ∧ (s.objs o).fd = some f ∧ (s'.objs o).fd = none)) : Descr s' := by
  have := d.fdLt; have := d.acqFdLt; have := d.relFdLt
  constructor
  · grind
  · grind
  · grind
  · have := d.fdInj; have := d.fdAcq; grind
  · have := d.fdAcq; have := d.acqInj; grind
  · have := d.fdRel; have := d.fdInj; have := d.acqRel; grind
  · have := d.acqInj; grind
  · have := d.acqRel; have := d.fdAcq; grind
  · have := d.procFd; have := d.procAcqFd; grind
  · have := d.procAcqFd; grind

/-- the hypotheses of `Descr.moved` for a step that writes the one pair `t`, `o` -/
structure Moved (s : St) (t o : Nat) (th' : Thread) (ob' : Obj) (nf' : Nat) (fp' : Nat → Nat) : Prop where
  next : s.nextFd ≤ nf'
  proc : ∀ f, f < s.nextFd → fp' f = s.fdProc f
  fd : ∀ f, ob'.fd = some f → (s.objs o).fd = some f ∨ ((s.thr t).pc.acqFd = some f ∧ th'.pc.acqFd = none)
  acq : ∀ f, th'.pc.acqFd = some f →
    (s.thr t).pc.acqFd = some f ∨ (s.nextFd ≤ f ∧ f < nf' ∧ fp' f = s.procT t)
  rel : ∀ f, th'.pc.relFd = some f → (s.thr t).pc.relFd = some f ∨ ((s.objs o).fd = some f ∧ ob'.fd = none)

/-- **Frame rule.**  `t` may touch `o` if it owns `o`'s thread lock, or `o` is free and `t` unattached
(`may`).  A step that rewrites only these two and the globals keeps `Inv` if the new pair is linked and
still exclusive (`only`, `own`), the OS lock does not change under another holder (`hhd`), and
descriptors only move (`mv`). -/
theorem Inv.frame (h : Inv s) {t o : Nat}
    (hthr : ∀ u, u ≠ t → s'.thr u = s.thr u) (hobj : ∀ o', o' ≠ o → s'.objs o' = s.objs o')
    (hpT : s'.procT = s.procT) (hpO : s'.procO = s.procO)
    (may : (s.objs o).tlOwner = some t ∨
      ((s.objs o).tlOwner = none ∧ (∀ o', ¬ (s.thr t).att o') ∧ s.procT t = s.procO o))
    (link : Link s'.holder t (s'.thr t) o (s'.objs o))
    (only : ∀ o', (s'.thr t).att o' → o' = o) (own : ∀ u, (s'.objs o).tlOwner = some u → u = t)
    (hhd : ∀ u o', u ≠ t → (s.thr u).holds = some o' → s'.holder = s.holder)
    (mv : Moved s t o (s'.thr t) (s'.objs o) s'.nextFd s'.fdProc) : Inv s' := by
  -- nobody else is attached to `o`, and `t` to nothing else
  have ex : ∀ u, (s.thr u).att o → u = t := fun u a => by
    have e := (h.link u o).own a
    rcases may with m | m
    · exact Option.some.inj (e.symm.trans m)
    · cases e.symm.trans m.1
  have ex' : ∀ o', (s.thr t).att o' → o' = o := fun o' a => by
    rcases may with m | m
    · exact h.att_unique a (h.ownJust o t m)
    · exact absurd a (m.2.1 o')
  have pr : s.procT t = s.procO o := may.elim (fun m => h.proc_of_att (h.ownJust o t m)) (·.2.2)
  refine .of_link ?_ ?_ (h.descr.moved t o mv.next mv.proc hpT hpO ?_ ?_ ?_)
  · intro u o'
    by_cases hu : u = t <;> by_cases ho : o' = o
    · subst hu ho; exact link
    · subst hu
      rw [hobj o' ho]
      exact .of_not_att (fun a => ho (only o' a)) (fun e => ho (ex' o' ((h.link u o').att e)))
        (h.link u o').free link.cs
    · subst ho
      rw [hthr u hu]
      exact .of_not_att (fun a => hu (ex u a)) (fun e => hu (own u e)) link.free (h.link u o').cs
    · rw [hthr u hu, hobj o' ho]
      have l := h.link u o'
      exact ⟨l.att, l.own, fun hh => hhd u o' hu hh ▸ l.hold hh, l.acq, l.rel, l.free, l.cs⟩
  · intro u o' a
    rw [hpT, hpO]
    by_cases hu : u = t
    · subst hu; exact only o' a ▸ pr
    · exact h.proc_of_att (hthr u hu ▸ a)
  · intro o' f e
    by_cases ho : o' = o
    · subst ho; exact (mv.fd f e).imp id fun m => ⟨rfl, m.1, m.2, pr⟩
    · exact .inl (hobj o' ho ▸ e)
  · intro u f e
    by_cases hu : u = t
    · subst hu; exact (mv.acq f e).imp id fun m => ⟨rfl, m⟩
    · exact .inl (hthr u hu ▸ e)
  · intro u f e
    by_cases hu : u = t
    · subst hu; exact (mv.rel f e).imp id fun m => ⟨rfl, m⟩
    · exact .inl (hthr u hu ▸ e)

theorem Inv.frame_upd (h : Inv s) {t o : Nat} {th' : Thread} {ob' : Obj} {op' : List Nat} {hd' : Option Nat}
    {nf' : Nat} {fp' : Nat → Nat}
    (may : (s.objs o).tlOwner = some t ∨
      ((s.objs o).tlOwner = none ∧ (∀ o', ¬ (s.thr t).att o') ∧ s.procT t = s.procO o))
    (link : Link hd' t th' o ob') (only : ∀ o', th'.att o' → o' = o) (own : ∀ u, ob'.tlOwner = some u → u = t)
    (hhd : ∀ u o', u ≠ t → (s.thr u).holds = some o' → hd' = s.holder)
    (mv : Moved s t o th' ob' nf' fp') :
    Inv { s with objs := upd s.objs o ob', thr := upd s.thr t th', opened := op', holder := hd',
                 nextFd := nf', fdProc := fp' } :=
  h.frame (t := t) (o := o) (fun _ hu => upd_other _ _ hu) (fun _ ho => upd_other _ _ ho) rfl rfl may
    (by simpa using link) (by simpa using only) (by simpa using own) hhd (by simpa using mv)

theorem Inv.frame_thr (h : Inv s) {t : Nat} (o : Nat) {th' : Thread} {op' : List Nat} {hd' : Option Nat}
    {nf' : Nat} {fp' : Nat → Nat}
    (a : (s.thr t).att o)
    (link : Link hd' t th' o (s.objs o)) (only : ∀ o', th'.att o' → o' = o)
    (hhd : ∀ u o', u ≠ t → (s.thr u).holds = some o' → hd' = s.holder)
    (mv : Moved s t o th' (s.objs o) nf' fp') :
    Inv { s with thr := upd s.thr t th', opened := op', holder := hd', nextFd := nf', fdProc := fp' } :=
  have own := (h.link t o).own a
  h.frame (t := t) (o := o) (fun _ hu => upd_other _ _ hu) (fun _ _ => rfl) rfl rfl (.inl own)
    (by simpa using link) (by simpa using only) (fun u e => by simpa [own] using e.symm) hhd (by simpa using mv)

end AiutiVerif.FileLock.Small
