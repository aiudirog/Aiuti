import AiutiVerif.FileLock.Small
/-!
# Inductive invariant of the small-step FileLock model

Existential-free, one universally quantified clause per field.  The clauses are of two kinds: what
holds of one thread and one object (`ownJust` … `freeSt`, `csHold`, `procHold` … `procRel`,
`relTlCnt`), and the bookkeeping of descriptors (`fdLt` … `acqRel`, `procFd`, `procAcqFd`);
`SmallFrame.lean` takes them apart that way.
-/
namespace AiutiVerif.FileLock.Small

structure Inv (s : St) : Prop where
  /-- whoever owns an object's thread lock is holding through it or is inside acquire / release on it -/
  ownJust : ∀ o t, (s.objs o).tlOwner = some t →
    (s.thr t).holds = some o ∨ (s.thr t).pc.acqObj = some o ∨ (s.thr t).pc.relObj = some o
  /-- a holder owns the object's thread lock, the object's descriptor is the one that holds the OS lock -/
  holdOwn : ∀ t o, (s.thr t).holds = some o → (s.objs o).tlOwner = some t
  holdFd : ∀ t o, (s.thr t).holds = some o → (s.objs o).fd.isSome = true ∧ s.holder = (s.objs o).fd
  holdCnt : ∀ t o, (s.thr t).holds = some o → (s.objs o).counter = (s.thr t).depth ∧ 1 ≤ (s.thr t).depth
  holdDepth : ∀ t o, (s.thr t).holds = some o →
    (s.objs o).tlDepth = (s.thr t).depth + (if (s.thr t).pc.relObj = some o then (s.thr t).pc.pend else 0)
  holdPc : ∀ t o, (s.thr t).holds = some o → (s.thr t).pc = .idle ∨ (s.thr t).pc = .relTl o 1
  /-- inside acquire: owns the thread lock once, the object has no descriptor yet -/
  acqSt : ∀ t o, (s.thr t).pc.acqObj = some o →
    (s.objs o).tlOwner = some t ∧ (s.objs o).fd = none ∧ (s.objs o).counter = 1 ∧
    (s.thr t).holds = none ∧ (s.objs o).tlDepth = 1
  relSt : ∀ t o, (s.thr t).pc.relObj = some o → (s.objs o).tlOwner = some t ∧ 1 ≤ (s.thr t).pc.pend
  relFree : ∀ t o, (s.thr t).pc.relObj = some o → (s.thr t).holds = none →
    (s.objs o).fd = none ∧ (s.objs o).tlDepth = (s.thr t).pc.pend
  relKeep : ∀ t o, (s.thr t).pc.relObj = some o → (s.thr t).holds ≠ none → (s.thr t).holds = some o
  /-- an unowned object is pristine -/
  freeSt : ∀ o, (s.objs o).tlOwner = none →
    (s.objs o).counter = 0 ∧ (s.objs o).tlDepth = 0 ∧ (s.objs o).fd = none
  /-- descriptors: fresh, and no two slots (object field, acquire local, release local) share one -/
  fdLt : ∀ o f, (s.objs o).fd = some f → f < s.nextFd
  acqFdLt : ∀ t f, (s.thr t).pc.acqFd = some f → f < s.nextFd
  relFdLt : ∀ t f, (s.thr t).pc.relFd = some f → f < s.nextFd
  fdInj : ∀ o o' f, (s.objs o).fd = some f → (s.objs o').fd = some f → o = o'
  fdAcq : ∀ o t f, (s.objs o).fd = some f → (s.thr t).pc.acqFd ≠ some f
  fdRel : ∀ o t f, (s.objs o).fd = some f → (s.thr t).pc.relFd ≠ some f
  acqInj : ∀ t u f, (s.thr t).pc.acqFd = some f → (s.thr u).pc.acqFd = some f → t = u
  acqRel : ∀ t u f, (s.thr t).pc.acqFd = some f → (s.thr u).pc.relFd ≠ some f
  /-- only a holder is inside its critical section -/
  csHold : ∀ t, (s.thr t).inCS = true → (s.thr t).holds.isSome = true ∧ (s.thr t).pc = .idle
  procHold : ∀ t o, (s.thr t).holds = some o → s.procT t = s.procO o
  procAcq : ∀ t o, (s.thr t).pc.acqObj = some o → s.procT t = s.procO o
  procRel : ∀ t o, (s.thr t).pc.relObj = some o → s.procT t = s.procO o
  procFd : ∀ o f, (s.objs o).fd = some f → s.fdProc f = s.procO o
  procAcqFd : ∀ t f, (s.thr t).pc.acqFd = some f → s.fdProc f = s.procT t
  /-- after `closeR` the counter is 0 (F9 repair) -/
  relTlCnt : ∀ t o, (s.thr t).pc.relTlObj = some o → (s.thr t).holds = none → (s.objs o).counter = 0

/-- Two holders' objects both have the descriptor that holds the OS lock, so they are one object, and its
thread lock has one owner. -/
theorem Inv.holder_unique {s : St} (h : Inv s) {t u o o' : Nat} (ht : (s.thr t).holds = some o)
    (hu : (s.thr u).holds = some o') : t = u := by
  obtain ⟨i, e⟩ := h.holdFd t o ht
  obtain ⟨f, hf⟩ := Option.isSome_iff_exists.mp i
  have e' := (h.holdFd u o' hu).2
  cases h.fdInj o o' f hf (by rw [← e', e, hf])
  exact Option.some.inj ((h.holdOwn t o ht).symm.trans (h.holdOwn u o hu))

theorem mutex_of_inv (s : St) (h : Inv s) (t u : Nat)
    (ht : (s.thr t).inCS = true) (hu : (s.thr u).inCS = true) : t = u := by
  obtain ⟨o, ho⟩ := Option.isSome_iff_exists.mp (h.csHold t ht).1
  obtain ⟨o', ho'⟩ := Option.isSome_iff_exists.mp (h.csHold u hu).1
  exact h.holder_unique ho ho'

theorem inv_init (reent : Nat → Bool) (pt po : Nat → Nat) : Inv (init reent pt po) := by
  constructor <;> simp [init, Pc.acqObj, Pc.relObj, Pc.acqFd, Pc.relFd, Pc.relTlObj]

end AiutiVerif.FileLock.Small
