import AiutiVerif.FileLock.SmallStep
import AiutiVerif.Core.ListLemmas
/-!
# C02 / C13 — mutual exclusion under every interleaving, also across a crash

Stated about the small-step model `FileLock/Small.lean`: any number of processes, threads and
lock objects (reentrant or not) on one lock file; blocking, non-blocking and timed acquires;
plain and forced releases; `SIGKILL` of any process at any point.  `accepts` quantifies over
**all** label sequences (= all interleavings at the granularity of the shared accesses).
-/
namespace AiutiVerif.FileLock.Small

theorem inv_reachable (ls : List Label) : ∀ (s s' : St), Inv s → accepts s ls = some s' → Inv s' :=
  accepts_induct (fun _ => rfl) (fun s l ls => by rw [accepts]; cases step s l <;> rfl) inv_step ls

theorem inv_of_accepts {reent : Nat → Bool} {pt po : Nat → Nat} {ls : List Label} {s : St}
    (hs : accepts (init reent pt po) ls = some s) : Inv s :=
  inv_reachable ls _ s (inv_init reent pt po) hs

/-- **C02.** At most one holder is inside a FileLock-protected section for the lock file at any
time — threads sharing one object, different objects, different processes — also in interleavings
with crashes (`kill`). -/
theorem C02_mutex (reent : Nat → Bool) (pt po : Nat → Nat) (ls : List Label) (s : St)
    (hs : accepts (init reent pt po) ls = some s) (t u : Nat)
    (ht : (s.thr t).inCS = true) (hu : (s.thr u).inCS = true) : t = u :=
  mutex_of_inv s (inv_of_accepts hs) t u ht hu

/-- A contender whose acquire reported success is *the* holder until it releases: its object
owns the in-process lock for it, and that object's descriptor is the one holding the OS lock. -/
theorem C02_success_is_hold (reent : Nat → Bool) (pt po : Nat → Nat) (ls : List Label) (s : St)
    (hs : accepts (init reent pt po) ls = some s) (t o : Nat) (hh : (s.thr t).holds = some o) :
    (s.objs o).tlOwner = some t ∧ (s.objs o).fd.isSome = true ∧ s.holder = (s.objs o).fd ∧
    ∀ u o', (s.thr u).holds = some o' → u = t := by
  have hi := inv_of_accepts hs
  exact ⟨hi.holdOwn t o hh, (hi.holdFd t o hh).1, (hi.holdFd t o hh).2, fun u o' hu => hi.holder_unique hu hh⟩

/-- **C13.** Right after `kill p` the OS lock is not held by a descriptor of `p`.  (That killing a process at any point
preserves the invariant, hence mutual exclusion among the survivors, is `inv_kill`: `C02_mutex` covers histories with `kill`.) -/
theorem C13_lock_not_left_behind (s s' : St) (p : Nat) (hs : step s (.kill p) = some s') :
    ∀ f, s'.holder = some f → s'.fdProc f ≠ p := by
  simp only [step, Option.some.injEq] at hs
  subst hs
  intro f hf
  grind

/-- Whoever is outside every call, holds nothing and finds the thread lock of `o` and the OS lock free acquires
in three steps (the thread's `depth` is not read). -/
theorem available_when_free (s : St) (t o : Nat) (hfree : s.holder = none)
    (hpc : (s.thr t).pc = .idle) (hh : (s.thr t).holds = none) (hcs : (s.thr t).inCS = false)
    (hob : (s.objs o).tlOwner = none ∧ (s.objs o).fd = none) (hp : s.procT t = s.procO o) :
    ∃ s', accepts s [.tlAcq t o true, .osOpen t true, .flock t true] = some s' ∧
      (s'.thr t).holds = some o ∧ s'.holder = (s'.objs o).fd ∧ (s'.objs o).fd.isSome = true := by
  simp [accepts, step, hpc, hh, hcs, hob.1, hob.2, tlFree, hp, setPc, upd, hfree]

/-- No clean-up by anybody is needed: once nothing holds the OS lock, a fresh thread of a fresh object
of any process acquires it in three steps (there is no on-disk ownership state in the model, as there
is none in the code: the lock file is never unlinked or inspected). -/
theorem C13_available_after_kill (s : St) (t o : Nat)
    (hfree : s.holder = none)
    (hth : s.thr t = { pc := .idle, holds := none, depth := 0, inCS := false })
    (hob : (s.objs o).tlOwner = none ∧ (s.objs o).fd = none) (hp : s.procT t = s.procO o) :
    ∃ s', accepts s [.tlAcq t o true, .osOpen t true, .flock t true] = some s' ∧
      (s'.thr t).holds = some o ∧ s'.holder = (s'.objs o).fd ∧ (s'.objs o).fd.isSome = true :=
  available_when_free s t o hfree (by rw [hth]) (by rw [hth]) (by rw [hth]) hob hp

-- two threads of two objects contend, one is killed while holding
example :
    let s0 := init (fun _ => false) (fun t => t) (fun o => o)
    (accepts s0 [.tlAcq 0 0 true, .osOpen 0 true, .flock 0 true, .enter 0,
                 .tlAcq 1 1 true, .osOpen 1 true, .flock 1 false, .closeA 1, .retry 1,
                 .kill 0, .osOpen 1 true, .flock 1 true, .enter 1]).isSome = true ∧
    -- without the crash the second thread cannot get in
    (accepts s0 [.tlAcq 0 0 true, .osOpen 0 true, .flock 0 true, .enter 0,
                 .tlAcq 1 1 true, .osOpen 1 true, .flock 1 true]).isSome = false := by
  decide

end AiutiVerif.FileLock.Small
