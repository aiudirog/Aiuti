import AiutiVerif.FileLock.SmallFrame
/-!
# Preservation of `Inv` by every label of the small-step FileLock model

Each label but `kill` is an instance of the frame rule: the proof reads off `Inv` what holds of the
stepping thread and its object, and the `Link` of the new pair follows by evaluating the program-counter
classifiers.
-/
namespace AiutiVerif.FileLock.Small

attribute [local simp] Pc.acqObj Pc.relObj Pc.acqFd Pc.relFd Pc.relTlObj Pc.pend Thread.att

theorem tlFree_cases (ob : Obj) (t : Nat) (h : tlFree ob t = true) :
    ob.tlOwner = none ∨ (ob.reentrant = true ∧ ob.tlOwner = some t) := by
  simpa [tlFree] using h

theorem tlFree_false (ob : Obj) (t : Nat) (h : ¬ tlFree ob t = true) : ob.tlOwner ≠ none := by
  intro hn; apply h; simp [tlFree, hn]

variable {s : St}

theorem Inv.inCS_false (h : Inv s) (t : Nat) (hpc : (s.thr t).pc ≠ .idle) : (s.thr t).inCS = false :=
  Bool.eq_false_iff.mpr fun e => hpc (h.csHold t e).2

/-- `relTl _ 1` is the one point of `release` at which a thread may still hold (a nested release). -/
theorem Inv.rel_full (h : Inv s) {t o : Nat} (hr : (s.thr t).pc.relObj = some o)
    (h1 : ∀ o, (s.thr t).pc ≠ .relTl o 1) :
    (s.objs o).tlOwner = some t ∧ 1 ≤ (s.thr t).pc.pend ∧ (s.thr t).holds = none ∧ (s.objs o).fd = none ∧
      (s.objs o).tlDepth = (s.thr t).pc.pend ∧ (s.thr t).inCS = false := by
  have hi : (s.thr t).pc ≠ .idle := fun e => by simp [e] at hr
  have hn : (s.thr t).holds = none :=
    Option.eq_none_iff_forall_ne_some.mpr fun o e => (h.holdPc t o e).elim hi (h1 o)
  exact ⟨(h.relSt t o hr).1, (h.relSt t o hr).2, hn, (h.relFree t o hr hn).1, (h.relFree t o hr hn).2,
    h.inCS_false t hi⟩

theorem Inv.holder_of_relFd (h : Inv s) {t fd : Nat} (hfd : (s.thr t).pc.relFd = some fd) (u o' : Nat)
    (_ : u ≠ t) (hu : (s.thr u).holds = some o') : (if s.holder = some fd then none else s.holder) = s.holder :=
  if_neg fun e => h.fdRel o' t fd ((h.holdFd u o' hu).2 ▸ e) hfd

/-- A move inside `acquire` on `o`: the pair stays as `acqSt` describes it whatever `p'` is; only the
origin of the descriptor that `p'` carries is to be shown. -/
theorem Inv.acq_move (h : Inv s) {t o : Nat} {p' : Pc} {op' : List Nat} {nf' : Nat} {fp' : Nat → Nat}
    (ha : (s.thr t).pc.acqObj = some o) (ha' : p'.acqObj = some o)
    (next : s.nextFd ≤ nf') (proc : ∀ f, f < s.nextFd → fp' f = s.fdProc f)
    (hfd : ∀ f, p'.acqFd = some f →
      (s.thr t).pc.acqFd = some f ∨ (s.nextFd ≤ f ∧ f < nf' ∧ fp' f = s.procT t)) :
    Inv { setPc s t p' with opened := op', nextFd := nf', fdProc := fp' } := by
  obtain ⟨own, fdn, cnt, hn, dep⟩ := h.acqSt t o ha
  have cs := h.inCS_false t (fun e => by simp [e] at ha)
  have hr := Pc.relObj_of_acqObj p' o ha'
  have hrf : p'.relFd = none := by cases p' <;> simp at ha' ⊢
  refine h.frame_thr o (.inr (.inl ha))
    ⟨fun _ => .inr (.inl ha'), fun _ => own, fun e => (nomatch hn.symm.trans e), fun _ => ⟨fdn, cnt, hn, dep⟩,
      fun e => (nomatch hr.symm.trans e), fun e => (nomatch own.symm.trans e), fun e => (nomatch cs.symm.trans e)⟩
    ?_ (fun _ _ _ _ => rfl) ⟨next, proc, fun f e => .inl e, hfd, fun f e => (nomatch hrf.symm.trans e)⟩
  rintro o' (e | e | e)
  · exact (nomatch hn.symm.trans e)
  · exact Option.some.inj (e.symm.trans ha')
  · exact (nomatch hr.symm.trans e)

theorem inv_kill (s s' : St) (p : Nat) (h : Inv s) (hs : step s (.kill p) = some s') : Inv s' := by
  simp only [step, Option.some.injEq] at hs
  subst hs
  -- no descriptor moves on `kill`: the pair handed to `Descr.moved` is never looked at
  refine .of_link ?_ ?_ (h.descr.moved 0 0 (Nat.le_refl _) (fun _ _ => rfl) rfl rfl ?_ ?_ ?_)
  · intro u o
    have l := h.link u o
    -- an attached pair lives in one process: it dies as a whole or not at all
    have pr := fun a => h.proc_of_att (t := u) (o := o) a
    by_cases hu : s.procT u = p <;> by_cases ho : s.procO o = p <;> simp only [hu, ho, if_true, if_false]
    · exact .of_not_att (by simp) (by simp) (by simp) (by simp)
    · exact .of_not_att (by simp) (fun e => ho (pr (l.att e) ▸ hu)) l.free (by simp)
    · exact .of_not_att (fun a => hu (pr a ▸ ho)) (by simp) (by simp) l.cs
    · refine ⟨l.att, l.own, fun hh => ?_, l.acq, l.rel, l.free, l.cs⟩
      -- the descriptor that holds the OS lock is that of `o`, which survives
      obtain ⟨i, e, r⟩ := l.hold hh
      obtain ⟨f, hf⟩ := Option.isSome_iff_exists.mp i
      refine ⟨i, ?_, r⟩
      rw [e, hf]
      simp [h.procFd o f hf, ho]
  · intro u o a
    by_cases hu : s.procT u = p
    · simp [hu] at a
    · simp only [hu, if_false] at a
      exact h.proc_of_att a
  · intro o f e
    by_cases ho : s.procO o = p
    · simp [ho] at e
    · exact .inl (by simpa [ho] using e)
  · intro u f e
    by_cases hu : s.procT u = p
    · simp [hu] at e
    · exact .inl (by simpa [hu] using e)
  · intro u f e
    by_cases hu : s.procT u = p
    · simp [hu] at e
    · exact .inl (by simpa [hu] using e)

theorem inv_step (s s' : St) (l : Label) (h : Inv s) (hs : step s l = some s') : Inv s' := by
  cases l
  case kill p => exact inv_kill s s' p h hs
  all_goals simp only [step, setPc, tlReleaseOnce] at hs
  case tlAcq t o ok =>
    split at hs
    · rename_i hg
      obtain ⟨hpc, hcs, hh, hp⟩ := hg
      have l := h.link t o
      split at hs
      · split at hs
        · rename_i hfree
          split at hs <;> (rename_i hfd; cases hs)
          · -- nested acquire: `o` has a descriptor, so it is not free: `t` owns it and holds through it
            have own : (s.objs o).tlOwner = some t := by
              rcases tlFree_cases _ _ hfree with e | e
              · simp [(l.free e).2.2] at hfd
              · exact e.2
            have hh : (s.thr t).holds = some o := by simpa [hpc] using l.att own
            obtain ⟨-, hdEq, cnt, d1, dep, -⟩ := l.hold hh
            exact h.frame_upd (.inl own) (by constructor <;> simp [*]) (by simp [*]) (by simp)
              (fun _ _ _ _ => rfl) (by constructor <;> simp [*])
          · -- first acquire: `o` has no descriptor, so `t` does not hold through it: `o` is free
            have hn : (s.thr t).holds = none := by
              rcases hh with e | e
              · exact e
              · simp [(l.hold e).1] at hfd
            have own : (s.objs o).tlOwner = none := by
              rcases tlFree_cases _ _ hfree with e | e
              · exact e
              · simpa [hpc, hn] using l.att e.2
            obtain ⟨cnt, dep, fdn⟩ := l.free own
            exact h.frame_upd (.inr ⟨own, by simp [*], hp⟩) (by constructor <;> simp [*]) (by simp [*]) (by simp)
              (fun _ _ _ _ => rfl) (by constructor <;> simp [*])
        · cases hs
      · split at hs <;> cases hs
        exact h
    · cases hs
  case osOpen t ok =>
    split at hs
    next o hpc =>
      have ha : (s.thr t).pc.acqObj = some o := by simp [hpc]
      split at hs <;> cases hs
      · exact h.acq_move ha rfl (Nat.le_succ _) (fun f hf => upd_other _ _ (Nat.ne_of_lt hf))
          (fun f e => .inr (by simp at e; subst e; simp))
      · exact h.acq_move ha rfl (Nat.le_refl _) (fun _ _ => rfl) (by simp)
    next => cases hs
  case flock t ok =>
    split at hs
    next o fd hpc =>
      split at hs
      · split at hs <;> cases hs
        rename_i hnone
        have hnone : s.holder = none := by simpa using hnone
        obtain ⟨own, fdn, cnt, hn, dep⟩ := h.acqSt t o (by simp [hpc])
        refine h.frame_upd (.inl own) (by constructor <;> simp [*]) (by simp [*]) (by simp [*]) ?_
          (by constructor <;> simp [*])
        -- nobody else holds, since nothing holds the OS lock
        intro u o' _ hu
        obtain ⟨i, e⟩ := h.holdFd u o' hu
        rw [← e, hnone] at i; cases i
      · cases hs
        exact h.acq_move (by simp [hpc]) rfl (Nat.le_refl _) (fun _ _ => rfl) (by simp [hpc])
    next => cases hs
  case closeA t =>
    split at hs <;> cases hs
    next o fd hpc => exact h.acq_move (by simp [hpc]) rfl (Nat.le_refl _) (fun _ _ => rfl) (by simp)
  case retry t =>
    split at hs <;> cases hs
    next o hpc => exact h.acq_move (by simp [hpc]) rfl (Nat.le_refl _) (fun _ _ => rfl) (by simp)
  case giveUp t =>
    split at hs <;> cases hs
    next o hpc =>
      obtain ⟨own, fdn, cnt, hn, dep⟩ := h.acqSt t o (by simp [hpc])
      have cs := h.inCS_false t (by simp [hpc])
      -- the one level of the thread lock goes back: the pair comes apart, and `o` is as new
      exact h.frame_upd (.inl own) (by constructor <;> simp [*]) (by simp [*]) (by simp [*])
        (fun _ _ _ _ => rfl) (by constructor <;> simp [*])
  case relBegin t o force =>
    split at hs
    · rename_i hg
      obtain ⟨hpc, hcs, hh⟩ := hg
      have own := h.holdOwn t o hh
      obtain ⟨fdS, hdEq, cnt, d1, dep, -⟩ := (h.link t o).hold hh
      simp [hpc] at dep
      split at hs
      · cases hs
      · rename_i fd hfd
        split at hs <;> (rename_i hc; cases hs)
        · -- last level, or forced: the descriptor goes to the local variable, every level is to be given back
          refine h.frame_upd (.inl own) ?_ (by simp [*]) (by simp [*]) (fun _ _ _ _ => rfl)
            (by constructor <;> simp [*])
          constructor <;> simp [*]
          cases force <;> simp at hc ⊢ <;> omega
        · -- a nested release: `t` goes on holding, one level deeper than it will
          refine h.frame_upd (.inl own) ?_ (by simp [*]) (by simp [*]) (fun _ _ _ _ => rfl)
            (by constructor <;> simp [*])
          constructor <;> simp [*]
          omega
    · cases hs
  case unlock t =>
    split at hs <;> cases hs
    next o fd lv hpc =>
      obtain ⟨own, lv1, hn, fdn, dep, cs⟩ := h.rel_full (t := t) (o := o) (by simp [hpc]) (by simp [hpc])
      simp [hpc] at lv1 dep
      exact h.frame_thr o (.inr (.inr (by simp [hpc]))) (by constructor <;> simp [*]) (by simp [*])
        (h.holder_of_relFd (by simp [hpc])) (by constructor <;> simp [*])
  case closeR t =>
    split at hs <;> cases hs
    next o fd lv hpc =>
      obtain ⟨own, lv1, hn, fdn, dep, cs⟩ := h.rel_full (t := t) (o := o) (by simp [hpc]) (by simp [hpc])
      simp [hpc] at lv1 dep
      exact h.frame_upd (.inl own) (by constructor <;> simp [*]) (by simp [*]) (by simp [*])
        (h.holder_of_relFd (by simp [hpc])) (by constructor <;> simp [*])
  case tlRel t =>
    split at hs
    next o lv hpc =>
      obtain ⟨own, lv1⟩ := h.relSt t o (by simp [hpc])
      have cs := h.inCS_false t (by simp [hpc])
      simp [hpc] at lv1
      split at hs <;> cases hs
      by_cases hn : (s.thr t).holds = none
      · -- full release: the object is clean already, `lv` levels are left
        obtain ⟨fdn, dep⟩ := h.relFree t o (by simp [hpc]) hn
        have cnt := h.relTlCnt t o (by simp [hpc]) hn
        by_cases h1 : lv = 1
        · subst h1
          exact h.frame_upd (.inl own) (by constructor <;> simp [*]) (by simp [*]) (by simp [*])
            (fun _ _ _ _ => rfl) (by constructor <;> simp [*])
        · have : lv - 1 ≠ 0 := by omega
          refine h.frame_upd (.inl own) ?_ (by simp [*]) (by simp [*]) (fun _ _ _ _ => rfl)
            (by constructor <;> simp [*])
          constructor <;> simp [*]
          omega
      · -- a nested release: one level, and `t` goes on holding
        have hh := h.relKeep t o (by simp [hpc]) hn
        obtain ⟨fdS, hdEq, cnt, d1, dep, hp⟩ := (h.link t o).hold hh
        simp [hpc] at dep hp
        subst hp
        have : (s.thr t).depth ≠ 0 := by omega
        exact h.frame_upd (.inl own) (by constructor <;> simp [*]) (by simp [*]) (by simp [*])
          (fun _ _ _ _ => rfl) (by constructor <;> simp [*])
    next => cases hs
  -- entering and leaving the critical section: only the last clause of the pair's `Link` is new
  case enter t =>
    split at hs <;> cases hs
    rename_i hg
    obtain ⟨hpc, hh, -⟩ := hg
    obtain ⟨o, ho⟩ := Option.isSome_iff_exists.mp hh
    have l := h.link t o
    exact h.frame_thr o (.inl ho) ⟨l.att, l.own, l.hold, l.acq, l.rel, l.free, fun _ => ⟨hh, hpc⟩⟩ (by simp [*])
      (fun _ _ _ _ => rfl) (by constructor <;> simp [*])
  case exit t =>
    split at hs <;> cases hs
    rename_i hg
    obtain ⟨hh, hpc⟩ := h.csHold t hg
    obtain ⟨o, ho⟩ := Option.isSome_iff_exists.mp hh
    have l := h.link t o
    exact h.frame_thr o (.inl ho) ⟨l.att, l.own, l.hold, l.acq, l.rel, l.free, by simp⟩ (by simp [*])
      (fun _ _ _ _ => rfl) (by constructor <;> simp [*])

end AiutiVerif.FileLock.Small
