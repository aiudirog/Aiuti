import AiutiVerif.Gather.Model
import AiutiVerif.Core.ListLemmas
/-!
# C20 — `gather_excs` reports exactly the failures, in input order, after all finish
-/
namespace AiutiVerif.Gather

theorem complete_length (aws : List Aw) (slots : List (Option (Option Nat))) (i : Nat) :
    (complete aws slots i).length = slots.length := by
  unfold complete; split <;> simp

theorem complete_getElem? (aws : List Aw) (slots : List (Option (Option Nat))) (i j : Nat)
    (hlen : slots.length = aws.length) :
    (complete aws slots i)[j]? =
      if i = j ∧ j < aws.length then (aws[j]?.map fun a => some a.exc) else slots[j]? := by
  unfold complete
  cases h : aws[i]? with
  | none =>
    have hi : aws.length ≤ i := List.getElem?_eq_none_iff.mp h
    rw [if_neg (by omega)]
  | some =>
    have hi := lt_of_getElem? h
    by_cases hij : i = j
    · subst hij; rw [h]; simp [hlen, hi]
    · simp [hij]

theorem foldl_complete_length (aws : List Aw) : ∀ (ord : List Nat) (slots : List (Option (Option Nat))),
    (ord.foldl (complete aws) slots).length = slots.length := by
  intro ord
  induction ord with
  | nil => intro _; rfl
  | cons i r ih => intro slots; simp only [List.foldl_cons]; rw [ih, complete_length]

theorem foldl_complete_getElem? (aws : List Aw) : ∀ (ord : List Nat)
    (slots : List (Option (Option Nat))) (j : Nat), slots.length = aws.length →
    (ord.foldl (complete aws) slots)[j]? =
      if j ∈ ord ∧ j < aws.length then (aws[j]?.map fun a => some a.exc) else slots[j]? := by
  intro ord
  induction ord with
  | nil => intro slots j _; simp
  | cons i r ih =>
    intro slots j hlen
    simp only [List.foldl_cons]
    rw [ih (complete aws slots i) j (by rw [complete_length, hlen]), complete_getElem? aws slots i j hlen]
    by_cases hjr : j ∈ r
    · by_cases hj : j < aws.length <;> simp [hjr, hj]
    · by_cases hij : i = j
      · subst hij; simp [hjr]
      · simp [hjr, hij, Ne.symm hij]

theorem insertBy_perm (le : Nat → Nat → Bool) (x : Nat) : ∀ l, (insertBy le x l).Perm (x :: l) := by
  intro l
  induction l with
  | nil => exact List.Perm.refl _
  | cons y r ih =>
    unfold insertBy
    split
    · exact List.Perm.refl _
    · exact (List.Perm.cons y ih).trans (List.Perm.swap x y r)

theorem sortBy_perm (le : Nat → Nat → Bool) : ∀ l, (sortBy le l).Perm l := by
  intro l
  induction l with
  | nil => exact List.Perm.refl _
  | cons x r ih => exact (insertBy_perm le x _).trans (List.Perm.cons x ih)

/-- Every awaitable is run to completion and its outcome lands in the slot of its input index, whatever the
finishing order (`ord`: any permutation of the inputs, i.e. nothing is skipped or cancelled). -/
theorem C20_all_slots_filled (aws : List Aw) (ord : List Nat)
    (hperm : ord.Perm (List.range aws.length)) :
    slotsAfter aws ord = aws.map fun a => some a.exc := by
  apply List.ext_getElem?
  intro j
  unfold slotsAfter
  rw [foldl_complete_getElem? aws ord _ j (by simp)]
  by_cases hj : j < aws.length
  · have : j ∈ ord := (hperm.mem_iff).mpr (List.mem_range.mpr hj)
    simp [this, hj]
  · simp [hj]

/-- The model's own finishing order (virtual clock: by delay, ties by index) is such a
permutation.  (That no awaitable is skipped or cancelled because another one failed is how the model is
written - `order` never reads `exc` -, compared with the code by the differential check.) -/
theorem C20_runs_all (aws : List Aw) : (order aws).Perm (List.range aws.length) :=
  sortBy_perm _ _

theorem spec_eq_yielded (sub : Nat → Nat → Bool) (only : Nat) (aws : List Aw) :
    spec sub only aws = yielded sub only ((aws.map (·.exc)).map some) := by
  unfold yielded spec
  rw [List.map_map, List.zipIdx_map, List.filterMap_map]
  congr 1
  funext ⟨a, i⟩
  dsimp only [Function.comp, Prod.map, id]
  cases a.exc <;> rfl

/-- `gather_excs` yields exactly the exceptions raised that are instances of `only`, in the
order of the awaitables given — for **every** finishing order. -/
theorem C20_exact_in_input_order (sub : Nat → Nat → Bool) (only : Nat) (aws : List Aw)
    (ord : List Nat) (hperm : ord.Perm (List.range aws.length)) :
    gatherExcs sub only aws ord = spec sub only aws := by
  unfold gatherExcs
  rw [C20_all_slots_filled aws ord hperm, spec_eq_yielded, List.map_map]
  rfl

/-- In particular the result does not depend on the delays at all. -/
theorem C20_independent_of_timing (sub : Nat → Nat → Bool) (only : Nat) (aws aws' : List Aw)
    (h : aws.map (·.exc) = aws'.map (·.exc)) :
    gatherExcs sub only aws (order aws) = gatherExcs sub only aws' (order aws') := by
  rw [C20_exact_in_input_order _ _ _ _ (C20_runs_all aws),
    C20_exact_in_input_order _ _ _ _ (C20_runs_all aws')]
  rw [spec_eq_yielded, spec_eq_yielded, h]

/-- `raise_first_exc` raises the first of these in input order and returns `None` when there
is none. -/
theorem C20_raise_first (sub : Nat → Nat → Bool) (only : Nat) (aws : List Aw)
    (ord : List Nat) (hperm : ord.Perm (List.range aws.length)) :
    raiseFirst sub only aws ord = (spec sub only aws).head? := by
  unfold raiseFirst; rw [C20_exact_in_input_order _ _ _ _ hperm]

/-- **Only what was raised is reported.**  What an awaitable *returns* — be it an exception object — has no
influence on what `gather_excs` yields or `raise_first_exc` raises. -/
theorem C20_returned_not_reported (sub : Nat → Nat → Bool) (only : Nat) (aws aws' : List Aw)
    (h : aws.map (·.exc) = aws'.map (·.exc)) :
    gatherExcs sub only aws (order aws) = gatherExcs sub only aws' (order aws') ∧
    raiseFirst sub only aws (order aws) = raiseFirst sub only aws' (order aws') := by
  have := C20_independent_of_timing sub only aws aws' h
  exact ⟨this, by unfold raiseFirst; rw [this]⟩

-- an exception object that is *returned* (first awaitable) is not reported; the same class *raised* (second) is
example : gatherExcs (fun c d => c == d) 3 [⟨1, none, some 3⟩, ⟨2, some 3, none⟩] (order [⟨1, none, some 3⟩, ⟨2, some 3, none⟩])
    = [(1, 3)] := by decide

private def demoSub : Nat → Nat → Bool := fun c d => c == d || d == 0 || (c == 3 && d == 2)

example :
    let aws : List Aw := [{ delay := 30, exc := some 3 }, { delay := 10, exc := none, ret := some 2 }, { delay := 20, exc := some 4 }, { delay := 0, exc := some 2 }]
    order aws = [3, 1, 2, 0] ∧
    gatherExcs demoSub 2 aws (order aws) = [(0, 3), (3, 2)] ∧
    gatherExcs demoSub 0 aws (order aws) = [(0, 3), (2, 4), (3, 2)] ∧
    raiseFirst demoSub 4 aws (order aws) = some (2, 4) ∧
    raiseFirst demoSub 5 aws (order aws) = none := by decide

end AiutiVerif.Gather
