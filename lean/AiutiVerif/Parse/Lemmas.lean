import AiutiVerif.Parse.Model
namespace AiutiVerif.Parse

theorem splitGo_of_prefix {sep s : Str} (acc : Str) (h : sep <+: s) :
    splitGo sep s acc = some (acc.reverse, s.drop sep.length) := by
  cases s <;> simp [splitGo, List.isPrefixOf_iff_prefix, h]

theorem splitGo_nil {sep : Str} (acc : Str) (h : ¬ sep <+: []) : splitGo sep [] acc = none := by
  simp [splitGo, List.isPrefixOf_iff_prefix, h]

theorem splitGo_cons {sep : Str} {c : Char} {r : Str} (acc : Str) (h : ¬ sep <+: c :: r) :
    splitGo sep (c :: r) acc = splitGo sep r (c :: acc) := by
  simp [splitGo, List.isPrefixOf_iff_prefix, h]

theorem splitGo_sound (sep : Str) : ∀ (s acc : Str) (k v : Str),
    splitGo sep s acc = some (k, v) →
      ∃ k', k = acc.reverse ++ k' ∧ s = k' ++ sep ++ v ∧
        ∀ i, i < k'.length → ¬ sep <+: s.drop i
  | s, acc, k, v, h => by
    by_cases hp : sep <+: s
    · rw [splitGo_of_prefix acc hp] at h
      cases h
      exact ⟨[], (List.append_nil _).symm, (List.prefix_iff_eq_append.mp hp).symm, nofun⟩
    · cases s with
      | nil => rw [splitGo_nil acc hp] at h; cases h
      | cons c r =>
        rw [splitGo_cons acc hp] at h
        obtain ⟨k', hk, hs, hno⟩ := splitGo_sound sep r (c :: acc) k v h
        refine ⟨c :: k', by simp [hk], by simp [hs], fun i hi => ?_⟩
        cases i with
        | zero => exact hp
        | succ j => exact hno j (Nat.lt_of_succ_lt_succ hi)

theorem splitGo_complete (sep : Str) : ∀ (s acc : Str),
    splitGo sep s acc = none → ∀ i, i ≤ s.length → ¬ sep <+: s.drop i
  | s, acc, h, i, hi => by
    have hp : ¬ sep <+: s := fun hp => by rw [splitGo_of_prefix acc hp] at h; cases h
    cases i with
    | zero => exact hp
    | succ j =>
      cases s with
      | nil => cases hi
      | cons c r =>
        exact splitGo_complete sep r (c :: acc) (by rwa [splitGo_cons acc hp] at h) j (Nat.le_of_succ_le_succ hi)

theorem splitGo_first (sep v : Str) : ∀ (k acc : Str),
    (∀ i, i < k.length → ¬ sep <+: (k ++ sep ++ v).drop i) →
      splitGo sep (k ++ sep ++ v) acc = some (acc.reverse ++ k, v) := by
  intro k
  induction k with
  | nil => intro acc _; rw [splitGo_of_prefix acc (by simp)]; simp
  | cons c k ih =>
    intro acc hno
    have h0 : ¬ sep <+: c :: (k ++ sep ++ v) := hno 0 (Nat.zero_lt_succ _)
    rw [List.cons_append, List.cons_append, splitGo_cons acc h0,
      ih (c :: acc) fun i hi => hno (i + 1) (Nat.succ_lt_succ hi)]
    simp

theorem tryParse_fst (cfg : Cfg) (v : Val) : (tryParse cfg v).1 = lit cfg v := by
  cases v <;> rfl

theorem parseTuple_fst (cfg : Cfg) (k v : Val) : (parseTuple cfg k v).1 = specPair cfg (k, v) := by
  unfold parseTuple specPair
  cases hk : cfg.parseKeys <;> simp [tryParse_fst]

theorem parsePair_fst (cfg : Cfg) (it : Item) : (parsePair cfg it).1 = (toPair cfg it).map (specPair cfg) := by
  cases it with
  | str s => unfold parsePair toPair; cases h : splitOnce cfg.sep s <;> simp [h, parseTuple_fst, Except.map]
  | pair => simp [parsePair, toPair, parseTuple_fst, Except.map]
  | bad => rfl

theorem run_cons_out (cfg : Cfg) (it : Item) (rest : List Item) (d : List (Val × Val)) (log : List Str) :
    (run cfg (it :: rest) d log).out =
      match toPair cfg it with
      | .error e => .error e
      | .ok p =>
        if (specPair cfg p).1.hashable then
          (run cfg rest (dictInsert d (specPair cfg p).1 (specPair cfg p).2) (log ++ (parsePair cfg it).2)).out
        else .error .typeErrorUnhashable := by
  have h := parsePair_fst cfg it
  rw [run]
  generalize parsePair cfg it = q at h ⊢
  obtain ⟨q1, q2⟩ := q
  cases hp : toPair cfg it <;> simp only [hp, Except.map] at h <;> subst h
  · rfl
  · dsimp only
    generalize specPair cfg _ = kv
    obtain ⟨k, v⟩ := kv
    cases k.hashable <;> rfl

theorem run_out_of_toPairs (cfg : Cfg) : ∀ (items : List Item) (ps : List (Val × Val))
    (d : List (Val × Val)) (log : List Str), toPairs cfg items = .ok ps →
      (run cfg items d log).out = dictOf (ps.map (specPair cfg)) d := by
  intro items
  induction items with
  | nil => intro ps d log h; cases h; rfl
  | cons it rest ih =>
    intro ps d log h
    rw [run_cons_out]
    unfold toPairs at h
    cases hp : toPair cfg it with
    | error => simp [hp] at h
    | ok =>
      cases hr : toPairs cfg rest with
      | error => simp [hp, hr] at h
      | ok ps' =>
        simp only [hp, hr] at h
        cases h
        simp only [List.map_cons, dictOf]
        split
        · exact ih ps' _ _ hr
        · rfl

theorem run_append (cfg : Cfg) (post : List Item) : ∀ (pre : List Item) (d : List (Val × Val)) (log : List Str),
    run cfg (pre ++ post) d log =
      match (run cfg pre d log).out with
      | .ok d' => run cfg post d' (run cfg pre d log).calls
      | .error _ => run cfg pre d log := by
  intro pre
  induction pre with
  | nil => intro d log; rfl
  | cons it rest ih =>
    intro d log
    simp only [List.cons_append, run]
    split
    · rfl
    · split
      · exact ih _ _
      · rfl

end AiutiVerif.Parse
