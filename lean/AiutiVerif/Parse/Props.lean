import AiutiVerif.Parse.Lemmas
/-!
# C19 — `parse_to_dict` matches its model, splits once

Every theorem is for an arbitrary parser `cfg.parse : Str → Option Val` (`none` = the parser
raised anything), an arbitrary separator and both values of `parse_keys`.
The clause "with the default parser nothing but literal construction happens" is a statement
about `ast.literal_eval`; it is *assumed* (trusted base) and exercised by the correspondence
check (tripwire objects), not proved here.
-/
namespace AiutiVerif.Parse

/-- The result is the property's model: for every input whose items all convert to pairs,
the operational run (item by item, early exit) returns exactly `spec`. -/
theorem C19_spec (cfg : Cfg) (items : List Item) (ps : List (Val × Val))
    (h : toPairs cfg items = .ok ps) :
    (parseToDict cfg items).out = spec cfg items := by
  unfold parseToDict spec
  rw [h]
  exact run_out_of_toPairs cfg items ps [] [] h

/-- Strings are split at the first occurrence of the separator only … -/
theorem C19_split_first_sound (sep s k v : Str) (h : splitOnce sep s = some (k, v)) :
    sep ≠ [] ∧ s = k ++ sep ++ v ∧ ∀ i, i < k.length → ¬ sep <+: s.drop i := by
  unfold splitOnce at h
  split at h
  · cases h
  · rename_i hne
    obtain ⟨k', hk, hs, hno⟩ := splitGo_sound sep s [] k v h
    simp at hk; subst hk
    exact ⟨hne, hs, hno⟩

/-- … and it answers `none` only when the separator does not occur at all (or is empty, which
Python rejects). -/
theorem C19_split_none (sep s : Str) (h : splitOnce sep s = none) :
    sep = [] ∨ ∀ i, i ≤ s.length → ¬ sep <+: s.drop i := by
  unfold splitOnce at h
  split at h
  · left; assumption
  · right; exact splitGo_complete sep s [] h

/-- The converse (for a 1-character separator `hno` says that it does not occur in `k`). -/
theorem C19_split_first (sep k v : Str) (hne : sep ≠ [])
    (hno : ∀ i, i < k.length → ¬ sep <+: (k ++ sep ++ v).drop i) :
    splitOnce sep (k ++ sep ++ v) = some (k, v) := by
  unfold splitOnce
  rw [if_neg hne, splitGo_first sep v k [] hno]
  rfl

theorem toPairs_map_ok {β : Type} (cfg : Cfg) (f : β → Item) (g : β → Val × Val) :
    ∀ (l : List β), (∀ x ∈ l, toPair cfg (f x) = .ok (g x)) → toPairs cfg (l.map f) = .ok (l.map g) := by
  intro l
  induction l with
  | nil => intro _; rfl
  | cons x r ih =>
    intro h
    simp only [List.map_cons, toPairs]
    rw [h x (by simp), ih fun y hy => h y (by simp [hy])]

/-- Mappings / pair sequences / `'key<sep>value'` strings describing the same pairs give the
same result (keys in which the separator does not occur early, see `C19_split_first`). -/
theorem C19_shapes_agree (cfg : Cfg) (ps : List (Str × Str)) (hne : cfg.sep ≠ [])
    (hno : ∀ p ∈ ps, ∀ i, i < p.1.length → ¬ cfg.sep <+: (p.1 ++ cfg.sep ++ p.2).drop i) :
    (parseToDict cfg (ps.map fun p => Item.str (p.1 ++ cfg.sep ++ p.2))).out =
    (parseToDict cfg (ps.map fun p => Item.pair (.str p.1) (.str p.2))).out := by
  have h1 := toPairs_map_ok cfg (fun p : Str × Str => Item.str (p.1 ++ cfg.sep ++ p.2))
    (fun p => (Val.str p.1, Val.str p.2)) ps fun p hp => by
      simp only [toPair, C19_split_first cfg.sep p.1 p.2 hne (hno p hp)]
  have h2 := toPairs_map_ok cfg (fun p : Str × Str => Item.pair (.str p.1) (.str p.2))
    (fun p => (Val.str p.1, Val.str p.2)) ps fun _ _ => rfl
  rw [C19_spec cfg _ _ h1, C19_spec cfg _ _ h2]
  unfold spec
  rw [h1, h2]

/-- The first ill-formed item decides, whatever follows it. -/
theorem C19_first_error (cfg : Cfg) (pre post : List Item) (it : Item) (e : Err)
    (ps : List (Val × Val)) (d : List (Val × Val))
    (hit : toPair cfg it = .error e) (hpre : toPairs cfg pre = .ok ps)
    (hd : dictOf (ps.map (specPair cfg)) [] = .ok d) :
    (parseToDict cfg (pre ++ it :: post)).out = .error e := by
  unfold parseToDict
  rw [run_append, run_out_of_toPairs cfg pre ps [] [] hpre, hd]
  simp only [run_cons_out, hit]

/-- A string item without the separator raises `ValueError` (when everything before it was fine). -/
theorem C19_no_sep_is_error (cfg : Cfg) (pre post : List Item) (s : Str)
    (ps : List (Val × Val)) (d : List (Val × Val))
    (hs : splitOnce cfg.sep s = none) (hpre : toPairs cfg pre = .ok ps)
    (hd : dictOf (ps.map (specPair cfg)) [] = .ok d) :
    (parseToDict cfg (pre ++ Item.str s :: post)).out = .error .valueError :=
  C19_first_error cfg pre post _ _ ps d (by simp only [toPair, hs]) hpre hd

/-- An ill-formed item never yields a dictionary, wherever it stands. -/
theorem C19_malformed_never_dict (cfg : Cfg) (items : List Item) (e : Err)
    (h : toPairs cfg items = .error e) : ∃ e', (parseToDict cfg items).out = .error e' := by
  unfold parseToDict
  generalize ([] : List (Val × Val)) = d
  generalize ([] : List Str) = log
  induction items generalizing d log e with
  | nil => cases h
  | cons it rest ih =>
    rw [run_cons_out]
    unfold toPairs at h
    cases hit : toPair cfg it with
    | error e1 => exact ⟨e1, rfl⟩
    | ok =>
      cases hr : toPairs cfg rest with
      | ok => simp [hit, hr] at h
      | error e2 =>
        dsimp only
        split
        · exact ih e2 hr _ _
        · exact ⟨_, rfl⟩

/-- Non-string values pass through untouched, whatever the parser. -/
theorem C19_nonstrings_untouched (cfg : Cfg) (id cls : Nat) (h : Bool) :
    lit cfg (.obj id cls h) = .obj id cls h ∧ (tryParse cfg (.obj id cls h)).2 = [] :=
  ⟨rfl, rfl⟩

/-- A string the parser rejects (raises on, whatever the exception) is retained as is. -/
theorem C19_unparsable_retained (cfg : Cfg) (s : Str) (h : cfg.parse s = none) :
    lit cfg (.str s) = .str s := by simp [lit, h]

/-- With `parse_keys = False` keys are not touched at all. -/
theorem C19_keys_untouched_when_disabled (cfg : Cfg) (h : cfg.parseKeys = false) (p : Val × Val) :
    (specPair cfg p).1 = p.1 := by simp [specPair, h]

private def demoParse : Str → Option Val := fun s =>
  if s = "1".toList then some (.obj 1 1 true)
  else if s = "1.0".toList then some (.obj 2 1 true)
  else if s = "'b'".toList then some (.str "b".toList)
  else if s = "[]".toList then some (.obj 3 3 false)
  else none

example :
    (parseToDict { sep := "=".toList, parseKeys := true, parse := demoParse }
      [.str "a=1".toList, .str "1='b'".toList, .pair (.str "1.0".toList) (.obj 9 9 true),
       .str "x=y=z".toList]).out =
      .ok [(.str "a".toList, .obj 1 1 true), (.obj 1 1 true, .obj 9 9 true),
           (.str "x".toList, .str "y=z".toList)] := by rfl

example :
    (parseToDict { sep := "::".toList, parseKeys := true, parse := demoParse }
      [.str "a:::1".toList, .str "nosep".toList]).out = .error .valueError := by rfl

example :
    (parseToDict { sep := "=".toList, parseKeys := true, parse := demoParse }
      [.str "[]=1".toList]).out = .error .typeErrorUnhashable := by rfl

end AiutiVerif.Parse
