import AiutiVerif.Split.Model
import AiutiVerif.Core.ListLemmas
/-!
# The pair-stream machine in canonical form

Every reachable state of `Model.lean` is determined by how many pairs have been built (`n`), how many
further source elements were lost to an exhausted condition iterable (`e`), the two cursors (`cu`) and the
two "finished" flags (`fn`).
-/
namespace AiutiVerif.Split
variable {α σ : Type}

def canon (cfg : Cfg α σ) (n e : Nat) (cu : Bool → Nat) (fn : Bool → Bool) : St α σ :=
  { srcRest := cfg.src.drop (n + e), srcPulled := cfg.src.take (n + e),
    condRest := (match cfg.cond with | .iter l => l.drop n | .callable _ => []),
    predLog := (match cfg.cond with | .callable _ => cfg.src.take n | .iter _ => []),
    buf := (pairs cfg).take n, cur := cu, fin := fn }

theorem init_eq_canon (cfg : Cfg α σ) : init cfg = canon cfg 0 0 (fun _ => 0) (fun _ => false) := by
  unfold init canon
  cases cfg.cond <;> simp

theorem sels_length_callable (cfg : Cfg α σ) (f) (h : cfg.cond = .callable f) :
    (sels cfg).length = cfg.src.length := by
  simp [sels, h]

theorem sels_getElem?_callable (cfg : Cfg α σ) (f) (h : cfg.cond = .callable f) (n : Nat) :
    (sels cfg)[n]? = (cfg.src[n]?).map (f n) := by
  simp [sels, h, List.getElem?_mapIdx]

theorem sels_iter (cfg : Cfg α σ) (l) (h : cfg.cond = .iter l) : sels cfg = l := by
  simp [sels, h]

theorem pairs_getElem?_eq_some (cfg : Cfg α σ) (k : Nat) (p : α × Bool) :
    (pairs cfg)[k]? = some p ↔ cfg.src[k]? = some p.1 ∧ ((sels cfg)[k]?).map cfg.truthy = some p.2 := by
  rw [pairs, List.getElem?_zip_eq_some, List.getElem?_map]

theorem pairs_length (cfg : Cfg α σ) : (pairs cfg).length = min cfg.src.length (sels cfg).length := by
  simp [pairs, List.length_zip]

theorem pairs_length_le_src (cfg : Cfg α σ) : (pairs cfg).length ≤ cfg.src.length := by
  rw [pairs_length]; omega

/-- A callable condition has a decision for every source element. -/
theorem not_callable_of_short (cfg : Cfg α σ) (h : (pairs cfg).length < cfg.src.length) (f) :
    cfg.cond ≠ .callable f := fun hc => by
  rw [pairs_length, sels_length_callable cfg f hc, Nat.min_self] at h
  exact Nat.lt_irrefl _ h

/-- what branch `side` has yielded when its cursor stands at `k` -/
def filt (cfg : Cfg α σ) (side : Bool) (k : Nat) : List α :=
  (((pairs cfg).take k).filter (fun p => p.2 = side)).map (·.1)

theorem filt_zero (cfg : Cfg α σ) (side : Bool) : filt cfg side 0 = [] := by simp [filt]

theorem filt_ge (cfg : Cfg α σ) (side : Bool) (k : Nat) (h : (pairs cfg).length ≤ k) :
    filt cfg side k = sideSpec cfg side := by
  simp [filt, sideSpec, List.take_of_length_le h]

theorem filt_prefix (cfg : Cfg α σ) (side : Bool) (k : Nat) :
    filt cfg side k <+: sideSpec cfg side :=
  List.IsPrefix.map _ (List.IsPrefix.filter _ (List.take_prefix _ _))

theorem filt_succ (cfg : Cfg α σ) (side : Bool) (k : Nat) (p : α × Bool) (hp : (pairs cfg)[k]? = some p) :
    filt cfg side (k + 1) = filt cfg side k ++ (if p.2 = side then [p.1] else []) := by
  unfold filt
  rw [take_succ_of_getElem? hp, List.filter_append, List.map_append]
  by_cases ht : p.2 = side <;> simp [ht]

theorem bump_same (f : Bool → Nat) (side : Bool) : bump f side side = f side + 1 := by simp [bump]
theorem bump_other (f : Bool → Nat) (side b : Bool) (h : b ≠ side) : bump f side b = f b := by
  simp [bump, h]
theorem setFin_same (f : Bool → Bool) (side : Bool) : setFin f side side = true := by simp [setFin]
theorem setFin_other (f : Bool → Bool) (side b : Bool) (h : b ≠ side) : setFin f side b = f b := by
  simp [setFin, h]

structure WF (cfg : Cfg α σ) (n e : Nat) (cu : Bool → Nat) (fn : Bool → Bool) : Prop where
  nLe : n ≤ (pairs cfg).length
  neLe : n + e ≤ cfg.src.length
  nMax : n = max (cu true) (cu false)
  lost : 0 < e → n = (pairs cfg).length ∧ ∀ f, cfg.cond ≠ .callable f
  finEnd : ∀ b, fn b = true → cu b = (pairs cfg).length

section
variable {cfg : Cfg α σ} {n e : Nat} {cu : Bool → Nat} {fn : Bool → Bool}

theorem wf_init (cfg : Cfg α σ) : WF cfg 0 0 (fun _ => 0) (fun _ => false) :=
  ⟨Nat.zero_le _, Nat.zero_le _, rfl, fun h => absurd h (Nat.lt_irrefl 0), fun b h => by simp at h⟩

theorem WF.cur_le (wf : WF cfg n e cu fn) (b : Bool) : cu b ≤ n := by
  have := wf.nMax
  cases b <;> omega

theorem WF.e_zero (wf : WF cfg n e cu fn) (h : n < (pairs cfg).length) : e = 0 :=
  Nat.eq_zero_of_not_pos fun h0 => by have := (wf.lost h0).1; omega

/-- Branch `side` reads the pair under its cursor (from the buffer, or the next one built). -/
theorem WF.bump (wf : WF cfg n e cu fn) (side : Bool) (h : cu side < (pairs cfg).length) :
    WF cfg (max n (cu side + 1)) e (bump cu side) fn := by
  have hle := wf.nLe
  refine ⟨by omega, ?_, ?_, fun h0 => ?_, fun b hb => ?_⟩
  · have := wf.neLe
    have := pairs_length_le_src cfg
    have : n < (pairs cfg).length → e = 0 := wf.e_zero
    omega
  · have := wf.nMax
    cases side <;> simp only [Split.bump] <;> simp <;> omega
  · have := wf.lost h0
    exact ⟨by omega, this.2⟩
  · have := wf.finEnd b hb
    rw [bump_other _ _ _ (fun hbs => by subst hbs; omega)]
    exact this

theorem WF.lose (wf : WF cfg n e cu fn) (hn : (pairs cfg).length ≤ n) (h : n + e < cfg.src.length) :
    WF cfg n (e + 1) cu fn :=
  { wf with neLe := h, lost := fun _ => ⟨Nat.le_antisymm wf.nLe hn, not_callable_of_short cfg (by omega)⟩ }

theorem WF.setFin (wf : WF cfg n e cu fn) (side : Bool) (h : cu side = (pairs cfg).length) :
    WF cfg n e cu (setFin fn side) := by
  refine { wf with finEnd := fun b hb => ?_ }
  by_cases hbs : b = side
  · subst hbs; exact h
  · rw [setFin_other _ _ _ hbs] at hb; exact wf.finEnd b hb

end

/-- `next()` on the `map` object: the next pair while pairs remain; one source element lost when the condition
iterable is exhausted before the source; otherwise nothing. -/
theorem pullPair_canon (cfg : Cfg α σ) (n e : Nat) (cu : Bool → Nat) (fn : Bool → Bool) (wf : WF cfg n e cu fn) :
    (∀ p, (pairs cfg)[n]? = some p →
      pullPair cfg (canon cfg n e cu fn) =
        (some p, { canon cfg (n + 1) e cu fn with buf := (pairs cfg).take n }) ∧ e = 0) ∧
    ((pairs cfg)[n]? = none → n + e < cfg.src.length →
      pullPair cfg (canon cfg n e cu fn) = (none, canon cfg n (e + 1) cu fn) ∧ ∀ f, cfg.cond ≠ .callable f) ∧
    ((pairs cfg)[n]? = none → ¬ n + e < cfg.src.length →
      pullPair cfg (canon cfg n e cu fn) = (none, canon cfg n e cu fn)) := by
  refine ⟨fun p hp => ?_, fun hp hlt => ?_, fun _ hge => ?_⟩
  · have he : e = 0 := wf.e_zero (lt_of_getElem? hp)
    subst he
    obtain ⟨hx, hy⟩ := (pairs_getElem?_eq_some cfg n p).mp hp
    refine ⟨?_, rfl⟩
    unfold pullPair canon
    simp only [Nat.add_zero, drop_of_getElem? hx]
    cases hc : cfg.cond with
    | callable f =>
      rw [sels_getElem?_callable cfg f hc, hx] at hy
      have hlen := List.length_take_of_le (Nat.le_of_lt (lt_of_getElem? hx))
      simp only [hlen, take_succ_of_getElem? hx, Option.some.inj hy]
    | iter l =>
      rw [sels_iter cfg l hc] at hy
      obtain ⟨y, hyl, hty⟩ := Option.map_eq_some_iff.mp hy
      simp only [drop_of_getElem? hyl, take_succ_of_getElem? hx, hty]
  · have hnp : (pairs cfg).length ≤ n := List.getElem?_eq_none_iff.mp hp
    have hnc := not_callable_of_short cfg (by omega)
    refine ⟨?_, hnc⟩
    cases hc : cfg.cond with
    | callable f => exact absurd hc (hnc f)
    | iter l =>
      -- the source has an element left, so it is the condition that ran out
      have hd : l.drop n = [] := by
        have := pairs_length cfg
        rw [sels_iter cfg l hc] at this
        rw [List.drop_eq_nil_iff]; omega
      unfold pullPair canon
      simp only [hc, hd, drop_of_getElem? (List.getElem?_eq_getElem hlt), ← take_succ_of_getElem? (List.getElem?_eq_getElem hlt),
        Nat.add_assoc]
  · have : cfg.src.drop (n + e) = [] := by rw [List.drop_eq_nil_iff]; omega
    unfold pullPair canon
    rw [this]

end AiutiVerif.Split
