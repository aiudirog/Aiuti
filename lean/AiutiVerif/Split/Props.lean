import AiutiVerif.Split.Run
/-!
# C18 — `split` partitions its input, lazily, evaluating each element once

All are stated for the operational model of `Model.lean` (the pair-stream implementation, fix for F39), for
every source list, every condition (stateful callable, or iterable of any length; any truthiness function)
and **every sequence of `next()` calls** on the two result iterators — a sequence that never mentions a side
is "abandoning" it.
-/
namespace AiutiVerif.Split
variable {α σ : Type}

/-- The model's fuel is never exhausted: every `next()` returns an element or stops. -/
theorem C18_next_total (cfg : Cfg α σ) (ops : List Bool) :
    ∀ p ∈ (run cfg ops (init cfg)).1, p.2 ≠ .outOfFuel := by
  obtain ⟨_, _, _, _, _, _, _, h, _, _⟩ := run_init cfg ops
  exact h

/-- In source order, only matching elements: what a side has yielded so far is a prefix of the
matching elements of the first `min (len iterable) (len condition)` elements. -/
theorem C18_side_prefix (cfg : Cfg α σ) (ops : List Bool) (side : Bool) :
    outs side (run cfg ops (init cfg)).1 <+: sideSpec cfg side := by
  obtain ⟨_, _, cu, _, _, _, h, _, _, _⟩ := run_init cfg ops
  rw [← h side]; exact filt_prefix cfg side _

/-- Exactly: once a side has stopped it has yielded all of its elements (so draining a side
yields exactly the truthy resp. falsy elements), whatever was done with the other side. -/
theorem C18_side_complete (cfg : Cfg α σ) (ops : List Bool) (side : Bool)
    (h : (side, Out.stop) ∈ (run cfg ops (init cfg)).1) :
    outs side (run cfg ops (init cfg)).1 = sideSpec cfg side := by
  obtain ⟨_, _, cu, fn, _, wf, hf, _, hs, _⟩ := run_init cfg ops
  rw [← hf side]
  exact filt_ge cfg side _ (Nat.le_of_eq (wf.finEnd side (hs side h)).symm)

/-- Together the two sides are a partition of the first `min` elements. -/
theorem C18_partition (cfg : Cfg α σ) :
    (sideSpec cfg true ++ sideSpec cfg false).Perm ((pairs cfg).map (·.1)) ∧
    (pairs cfg).map (·.1) = cfg.src.take (min cfg.src.length (sels cfg).length) := by
  constructor
  · unfold sideSpec
    rw [← List.map_append]
    apply List.Perm.map
    have : (fun p : α × Bool => decide (p.2 = false)) = fun p => !(decide (p.2 = true)) := by
      funext p; cases p.2 <;> rfl
    rw [this]
    exact List.filter_append_perm _ _
  · unfold pairs
    rw [List.zip_eq_zip_take_min, List.map_fst_zip (by simp), List.length_map]

/-- A callable condition is evaluated exactly once per element, in source order, and only as far as
some side has needed a pair (lazily).  An iterable condition is never called. -/
theorem C18_pred_once (cfg : Cfg α σ) (ops : List Bool) :
    let s := (run cfg ops (init cfg)).2
    (∀ f, cfg.cond = .callable f → s.predLog = cfg.src.take (max (s.cur true) (s.cur false))) ∧
    (∀ l, cfg.cond = .iter l → s.predLog = []) := by
  obtain ⟨n, e, cu, fn, hst, wf, _, _, _, _⟩ := run_init cfg ops
  simp only [hst]
  constructor
  · intro f hf; simp [canon, hf, wf.nMax]
  · intro l hl; simp [canon, hl]

/-- The source is consumed at most once per element, in order;
with a callable condition never beyond what some cursor has asked for; with an iterable condition at
most one element more per `next()` call that came back empty-handed (the `map` object pulls an
element before it finds the condition exhausted). -/
theorem C18_source_once (cfg : Cfg α σ) (ops : List Bool) :
    let s := (run cfg ops (init cfg)).2
    s.srcPulled ++ s.srcRest = cfg.src ∧
    s.srcPulled.length ≤ max (s.cur true) (s.cur false) + stops (run cfg ops (init cfg)).1 ∧
    (∀ f, cfg.cond = .callable f → s.srcPulled = cfg.src.take (max (s.cur true) (s.cur false))) := by
  obtain ⟨n, e, cu, fn, hst, wf, _, _, _, he⟩ := run_init cfg ops
  simp only [hst]
  refine ⟨by simp [canon], ?_, ?_⟩
  · simp only [canon, List.length_take]
    rw [← wf.nMax]
    omega
  · intro f hf
    have he0 : e = 0 := Nat.eq_zero_of_not_pos fun h0 => (wf.lost h0).2 f hf
    subst he0
    simp [canon, wf.nMax]

/-- `exhaust` consumes its whole argument (and has no other result). -/
theorem C18_exhaust (l : List α) : exhaust l = l.length := by
  induction l with
  | nil => rfl
  | cons _ r ih => simp [exhaust, ih]

/-- A stateful callable (depends on the call count), false side drained first. -/
example :
    let cfg : Cfg Nat Nat :=
      { src := [10, 11, 12, 13, 14], cond := .callable (fun k x => (k + x) % 3), truthy := (· ≠ 0) }
    (run cfg [false, false, true, false, true, true] (init cfg)).1 =
      [(false, .val 11), (false, .val 14), (true, .val 10), (false, .stop),
       (true, .val 12), (true, .val 13)] := by decide

/-- Iterable condition shorter than the source: both sides stop after two elements; the `map` object
loses one further source element per `next()` that reaches it (a result iterator that has stopped does not). -/
example :
    let cfg : Cfg Nat Bool := { src := [1, 2, 3, 4], cond := .iter [true, false], truthy := id }
    (run cfg [true, true, false, false, true] (init cfg)).1 =
      [(true, .val 1), (true, .stop), (false, .val 2), (false, .stop), (true, .stop)] ∧
    (run cfg [true, true, false, false, true] (init cfg)).2.srcPulled = [1, 2, 3, 4] := by decide

end AiutiVerif.Split
