import AiutiVerif.Split.Lemmas
/-!
# What `next()` and a run of `next()` calls do to the canonical form

One `next()` on a side (`next_spec`) leads from `canon cfg n e cu fn` to `canon cfg n' e' cu' fn'`: the other side's
cursor and flag are untouched, a value is the next element of `filt cfg side` past the cursor, a stop leaves
`filt … (cu' side)` where it was, finishes the side and loses at most one source element (`e' ≤ e + 1`: the element
`map` pulled before the condition iterable turned out to be exhausted), and any fuel above
`(pairs cfg).length - cu side` suffices.  `run_spec` adds these up over any sequence of calls; the C18 theorems are its projections.
-/
namespace AiutiVerif.Split
variable {α σ : Type}

theorem buf_canon (cfg : Cfg α σ) (side : Bool) (n e : Nat) (cu : Bool → Nat) (fn : Bool → Bool) :
    (canon cfg n e cu fn).buf[(canon cfg n e cu fn).cur side]? =
      if cu side < n then (pairs cfg)[cu side]? else none :=
  List.getElem?_take

theorem teeNext_canon (cfg : Cfg α σ) (side : Bool) (n e : Nat) (cu : Bool → Nat) (fn : Bool → Bool)
    (wf : WF cfg n e cu fn) (hf : fn side = false) :
    (∃ p n', (pairs cfg)[cu side]? = some p ∧
        teeNext cfg side (canon cfg n e cu fn) = (some p, canon cfg n' e (bump cu side) fn) ∧
        WF cfg n' e (bump cu side) fn) ∨
    (∃ e', (pairs cfg)[cu side]? = none ∧ cu side = (pairs cfg).length ∧
        teeNext cfg side (canon cfg n e cu fn) = (none, canon cfg n e' cu fn) ∧
        WF cfg n e' cu fn ∧ e ≤ e' ∧ e' ≤ e + 1) := by
  have hcu := wf.cur_le side
  have hn := wf.nLe
  obtain ⟨h1, h2, h3⟩ := pullPair_canon cfg n e cu fn wf
  unfold teeNext
  rw [buf_canon]
  cases hp : (pairs cfg)[cu side]? with
  | some p =>
    refine Or.inl ⟨p, max n (cu side + 1), rfl, ?_, wf.bump side (lt_of_getElem? hp)⟩
    by_cases hlt : cu side < n
    · rw [if_pos hlt, Nat.max_eq_left hlt]
      rfl
    · have hcn : cu side = n := by omega
      rw [hcn] at hp
      rw [if_neg hlt, (h1 p hp).1, hcn, Nat.max_eq_right (Nat.le_succ n)]
      dsimp only
      rw [← take_succ_of_getElem? hp]
      rfl
  | none =>
    have hnl : (pairs cfg).length ≤ cu side := List.getElem?_eq_none_iff.mp hp
    have hcn : cu side = n := by omega
    rw [hcn] at hp
    rw [if_neg (by omega)]
    by_cases hmore : n + e < cfg.src.length
    · exact Or.inr ⟨e + 1, rfl, by omega, by rw [(h2 hp hmore).1], wf.lose (by omega) hmore, by omega, by omega⟩
    · exact Or.inr ⟨e, rfl, by omega, by rw [h3 hp hmore], wf, by omega, by omega⟩

theorem next_spec (cfg : Cfg α σ) (side : Bool) :
    ∀ (fuel n e : Nat) (cu : Bool → Nat) (fn : Bool → Bool), WF cfg n e cu fn →
      (pairs cfg).length - cu side < fuel →
      ∃ o n' e' cu' fn', next cfg side fuel (canon cfg n e cu fn) = (o, canon cfg n' e' cu' fn') ∧
        WF cfg n' e' cu' fn' ∧ (∀ b, b ≠ side → cu' b = cu b ∧ fn' b = fn b) ∧ e ≤ e' ∧
        (fn side = true → fn' side = true) ∧
        (match o with
         | .val x => filt cfg side (cu' side) = filt cfg side (cu side) ++ [x] ∧ e' = e
         | .stop => filt cfg side (cu' side) = filt cfg side (cu side) ∧ fn' side = true ∧ e' ≤ e + 1
         | .outOfFuel => False) := by
  intro fuel
  induction fuel with
  | zero => intro n e cu fn _ h; omega
  | succ k ih =>
    intro n e cu fn wf hfuel
    rw [next, show (canon cfg n e cu fn).fin = fn from rfl]
    by_cases hfin : fn side = true
    · rw [if_pos hfin]
      exact ⟨.stop, n, e, cu, fn, rfl, wf, fun b _ => ⟨rfl, rfl⟩, Nat.le_refl _, fun h => h, rfl, hfin, Nat.le_succ _⟩
    · rw [if_neg hfin]
      rcases teeNext_canon cfg side n e cu fn wf (Bool.eq_false_iff.mpr hfin) with
        ⟨p, n', hp, ht, wf'⟩ | ⟨e', _, hend, ht, wf', he1, he2⟩
      · -- a pair: it is this side's, or the search goes on from the next cursor position
        have hfs := filt_succ cfg side (cu side) p hp
        rw [← bump_same cu side] at hfs
        rw [ht]
        simp only []
        by_cases hm : p.2 = side
        · rw [if_pos hm] at hfs ⊢
          exact ⟨.val p.1, n', e, bump cu side, fn, rfl, wf', fun b hb => ⟨bump_other _ _ _ hb, rfl⟩,
            Nat.le_refl _, fun h => h, hfs, rfl⟩
        · rw [if_neg hm] at hfs ⊢
          rw [List.append_nil] at hfs
          have hlt := lt_of_getElem? hp
          obtain ⟨o, n2, e2, cu2, fn2, hn, wf2, hoth, hee, hfk, hres⟩ :=
            ih n' e (bump cu side) fn wf' (by rw [bump_same]; omega)
          exact ⟨o, n2, e2, cu2, fn2, hn, wf2, fun b hb => bump_other cu side b hb ▸ hoth b hb, hee, hfk,
            by rwa [hfs] at hres⟩
      · rw [ht]
        exact ⟨.stop, n, e', cu, setFin fn side, rfl, wf'.setFin side hend, fun b hb => ⟨rfl, setFin_other _ _ _ hb⟩,
          he1, fun _ => setFin_same _ _, rfl, setFin_same _ _, he2⟩

/-- the call raised `StopIteration` -/
def isStop : Out α → Bool
  | .stop => true
  | _ => false

def stops (l : List (Bool × Out α)) : Nat := (l.filter (fun p => isStop p.2)).length

theorem outs_cons (side b : Bool) (o : Out α) (os : List (Bool × Out α)) :
    outs side ((b, o) :: os) = outs side [(b, o)] ++ outs side os :=
  List.filterMap_append (l := [(b, o)])

theorem stops_cons (p : Bool × Out α) (os : List (Bool × Out α)) : stops (p :: os) = stops [p] + stops os := by
  simp only [stops, List.filter_cons]
  split <;> simp <;> omega

theorem run_spec (cfg : Cfg α σ) :
    ∀ (ops : List Bool) (n e : Nat) (cu : Bool → Nat) (fn : Bool → Bool), WF cfg n e cu fn →
      ∃ n' e' cu' fn', (run cfg ops (canon cfg n e cu fn)).2 = canon cfg n' e' cu' fn' ∧ WF cfg n' e' cu' fn' ∧
        (∀ side, filt cfg side (cu' side) = filt cfg side (cu side) ++ outs side (run cfg ops (canon cfg n e cu fn)).1) ∧
        (∀ p ∈ (run cfg ops (canon cfg n e cu fn)).1, p.2 ≠ .outOfFuel) ∧
        (∀ side, ((side, Out.stop) ∈ (run cfg ops (canon cfg n e cu fn)).1 ∨ fn side = true) → fn' side = true) ∧
        e' ≤ e + stops (run cfg ops (canon cfg n e cu fn)).1 := by
  intro ops
  induction ops with
  | nil =>
    intro n e cu fn wf
    exact ⟨n, e, cu, fn, rfl, wf, by simp [run, outs, stops]⟩
  | cons side ops ih =>
    intro n e cu fn wf
    obtain ⟨o, n1, e1, cu1, fn1, hn, wf1, hoth, hee, hfk, hres⟩ := next_spec cfg side (fuelOf cfg) n e cu fn wf
      (by have := pairs_length_le_src cfg; unfold fuelOf; omega)
    obtain ⟨n2, e2, cu2, fn2, hr, wf2, hf2, ho2, hs2, he2⟩ := ih n1 e1 cu1 fn1 wf1
    -- the one call, in the terms of the run
    have h1 : filt cfg side (cu1 side) = filt cfg side (cu side) ++ outs side [(side, o)] ∧ o ≠ .outOfFuel ∧
        (o = .stop → fn1 side = true) ∧ e1 ≤ e + stops [(side, o)] := by
      cases o with
      | val => exact ⟨by simpa [outs] using hres.1, nofun, nofun, by simp [stops, isStop, hres.2]⟩
      | stop => exact ⟨by simpa [outs] using hres.1, nofun, fun _ => hres.2.1, by simpa [stops, isStop] using hres.2.2⟩
      | outOfFuel => exact hres.elim
    have h2 : ∀ b, b ≠ side → outs b [(side, o)] = [] := fun b hb => by
      cases o <;> simp [outs, Ne.symm hb]
    simp only [run, hn]
    refine ⟨n2, e2, cu2, fn2, hr, wf2, fun b => ?_, fun p hp => ?_, fun b hb => hs2 b ?_, ?_⟩
    · rw [hf2 b, outs_cons, ← List.append_assoc]
      by_cases hb : b = side
      · rw [hb, h1.1]
      · rw [(hoth b hb).1, h2 b hb, List.append_nil]
    · rcases List.mem_cons.mp hp with hp | hp
      · rw [hp]; exact h1.2.1
      · exact ho2 p hp
    · -- `b` stopped in this call (`h1`), in a later one (`hb`), or was finished before and stays so (`hfk`, `hoth`)
      have := h1.2.2.1
      grind
    · rw [stops_cons]
      omega

theorem run_init (cfg : Cfg α σ) (ops : List Bool) :
    ∃ n e cu fn, (run cfg ops (init cfg)).2 = canon cfg n e cu fn ∧ WF cfg n e cu fn ∧
      (∀ side, filt cfg side (cu side) = outs side (run cfg ops (init cfg)).1) ∧
      (∀ p ∈ (run cfg ops (init cfg)).1, p.2 ≠ .outOfFuel) ∧
      (∀ side, (side, Out.stop) ∈ (run cfg ops (init cfg)).1 → fn side = true) ∧
      e ≤ stops (run cfg ops (init cfg)).1 := by
  rw [init_eq_canon]
  obtain ⟨n, e, cu, fn, h1, h2, h3, h4, h5, h6⟩ := run_spec cfg ops 0 0 (fun _ => 0) (fun _ => false) (wf_init cfg)
  refine ⟨n, e, cu, fn, h1, h2, fun side => ?_, h4, fun side h => h5 side (Or.inl h), by omega⟩
  rw [h3 side, filt_zero, List.nil_append]

end AiutiVerif.Split
